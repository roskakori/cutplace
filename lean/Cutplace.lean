import Cutplace.Model.Checks
import Cutplace.Model.Cid
import Cutplace.Model.Cli
import Cutplace.Model.Csv
import Cutplace.Model.DataFormat
import Cutplace.Model.DateTime
import Cutplace.Model.Decimal
import Cutplace.Model.Engine
import Cutplace.Model.Excel
import Cutplace.Model.Fields
import Cutplace.Model.Fixed
import Cutplace.Model.Ods
import Cutplace.Model.Py
import Cutplace.Model.PyTok
import Cutplace.Model.Range
import Cutplace.Model.Regex
import Cutplace.Model.Sql
import Cutplace.Spec.DataFormat
import Cutplace.Spec.DecRange
import Cutplace.Spec.Excel
import Cutplace.Spec.Fields
import Cutplace.Spec.Fixed
import Cutplace.Spec.Ods
import Cutplace.Spec.Range
import Cutplace.Spec.Sql
import Cutplace.Proofs.CharLemmas
import Cutplace.Proofs.CharSpelling
import Cutplace.Proofs.CheckLemmas
import Cutplace.Proofs.CidTotal
import Cutplace.Proofs.CliLemmas
import Cutplace.Proofs.CsvLemmas
import Cutplace.Proofs.CsvRoundTrip
import Cutplace.Proofs.DateTimeComplete
import Cutplace.Proofs.DateTimeLemmas
import Cutplace.Proofs.DecRange
import Cutplace.Proofs.DecimalTotal
import Cutplace.Proofs.DeclareTotal
import Cutplace.Proofs.DigitLemmas
import Cutplace.Proofs.EngineLemmas
import Cutplace.Proofs.ExcelDate
import Cutplace.Proofs.FieldLemmas
import Cutplace.Proofs.FixedLemmas
import Cutplace.Proofs.Layout
import Cutplace.Proofs.LengthRange
import Cutplace.Proofs.LexLoop
import Cutplace.Proofs.LexTotal
import Cutplace.Proofs.OdsLemmas
import Cutplace.Proofs.Outcome
import Cutplace.Proofs.RangeLemmas
import Cutplace.Proofs.RangeLex
import Cutplace.Proofs.RangeNorm
import Cutplace.Proofs.RangeParse
import Cutplace.Proofs.RangeTokens
import Cutplace.Proofs.RangeTotal
import Cutplace.Proofs.RegexSem
import Cutplace.Proofs.SqlLemmas
import Cutplace.Props.C01
import Cutplace.Props.C02
import Cutplace.Props.C03
import Cutplace.Props.C04
import Cutplace.Props.C05
import Cutplace.Props.C06
import Cutplace.Props.C07
import Cutplace.Props.C08
import Cutplace.Props.C09
import Cutplace.Props.C10
import Cutplace.Props.C11
import Cutplace.Props.C12
import Cutplace.Props.C13
import Cutplace.Props.C14
import Cutplace.Props.C15
import Cutplace.Props.C16
import Cutplace.Props.C17
import Cutplace.Props.C18
import Cutplace.Props.C19
import Cutplace.Props.C20
