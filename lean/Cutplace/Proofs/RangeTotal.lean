import Cutplace.Model.Range
import Cutplace.Proofs.LexTotal
/-
`Range(description)` only ever fails with an interface error (or leaves the modelled fragment): no
other exception class can come out of the tokenizer, the token loop or the value conversions.
-/
namespace Cutplace

/-- every branch of `unicodeEscape` is one of the two errors, the empty text, or a recursive call
with something put in front of its result -/
theorem unicodeEscape_ends (fuel : Nat) (s : Str) :
    Ends (fun e => e = .unsupported ∨ e = .unicodeDecode) (fun _ => True) (unicodeEscape fuel s) := by
  fun_induction unicodeEscape fuel s
  all_goals first
    | exact .error (by decide)
    | exact .ok trivial
    | assumption
    | exact Ends.map ‹_› _ fun _ _ => trivial

/-- `hne`: the `assert` in `code_for_string_token` (a STRING token is never empty: `Tok.Emitted.string`) -/
theorem codeForString_ends (value : Str) (hne : value ≠ []) : Ends PyExn.Clean (0 ≤ ·) (codeForString value) := by
  unfold codeForString
  cases value with
  | nil => exact absurd rfl hne
  | cons q rest =>
    refine .ite ?_ (.error .iface)
    simp only []
    split
    · exact .ok (Int.natCast_nonneg _)
    · refine (unicodeEscape_ends _ _).elim (fun e he => ?_) fun s _ => ?_
      · rcases he with rfl | rfl
        · exact .error .unsupported
        · exact .error .iface
      · match s with
        | [c] => exact .ok (Int.natCast_nonneg _)
        | [] | _ :: _ :: _ => exact .error .iface

theorem codeForNumber_ends (value : Str) : Ends PyExn.Clean (0 ≤ ·) (codeForNumber value) := by
  unfold codeForNumber
  split
  · exact .ok (Int.natCast_nonneg _)
  · exact .error .iface

theorem symbolicCode_nonneg (v : Str) (c : Int) (h : symbolicCode v = some c) : 0 ≤ c := by
  revert h
  -- a row of the table gives its literal; the sixth case is "no row"
  fun_cases symbolicCode v
  case case6 => nofun
  all_goals rintro ⟨⟩; decide

theorem codeForSymbolic_ends (value : Str) : Ends PyExn.Clean (0 ≤ ·) (codeForSymbolic value) := by
  unfold codeForSymbolic
  refine .ite (.error .unsupported) ?_
  split
  · exact .ok (symbolicCode_nonneg _ _ ‹_›)
  · exact .error .iface

/-- while the token the item loop stops at is not the end marker, an end marker is still ahead -/
theorem itemLoop_ends (toks : List Tok) : ∀ r : Regs, Tokenized toks →
    Ends PyExn.Clean (fun (_, t, rest) => ¬t.isEof = true → Tokenized rest) (itemLoop r toks) := by
  induction toks with
  | nil => intro _ h; exact absurd h.1 HasEof.nil
  | cons t ts ih =>
    intro r h
    obtain ⟨ht, hts⟩ := h.cons
    rw [itemLoop]
    refine .by_cases (fun _ => .ok hts) fun hstop => ?_
    have next : ∀ r, Ends _ _ (itemLoop r ts) := fun r => ih r (hts fun he => hstop (by simp [he]))
    refine .by_cases (fun hlimit => ?_) fun _ => .ite (.error .iface) <| .ite (next _) <| .ite (next _) (.error .iface)
    extract_lets val
    have hval : Ends PyExn.Clean (fun _ => True) val :=
      .by_cases (fun _ => (codeForSymbolic_ends _).map _ fun _ _ => trivial) fun h1 =>
        .by_cases (fun _ => (codeForNumber_ends _).map _ fun _ _ => trivial) fun h2 =>
          (codeForString_ends _ (ht.string (by simpa [h1, h2] using hlimit))).map _ fun _ _ => trivial
    refine hval.elim (fun _ he => .error he) fun (v, hyph') _ => ?_
    exact .ite (.ite (next _) (.error .iface)) (.ite (next _) (.error .iface))

theorem decideItem_ends (r : Regs) : Ends PyExn.Clean (fun _ => True) (decideItem r) := by
  refine .ite (.error .iface) ?_
  split
  · exact .ite (.error .iface) (.ok trivial)
  · exact .ok trivial
  · refine .ite ?_ (.ok trivial)
    split
    · exact .ite (.error .iface) (.ok trivial)
    · exact .ok trivial

theorem addItem_ends (acc : Items) (res : Option Item) : Ends PyExn.Clean (fun _ => True) (addItem acc res) := by
  cases res with
  | none => exact .ok trivial
  | some it => exact .ite (.error .iface) (.ok trivial)

theorem parseTokens_ends (fuel : Nat) : ∀ (toks : List Tok) (acc : Items), Tokenized toks →
    Ends PyExn.Clean (fun _ => True) (parseTokens fuel toks acc) := by
  induction fuel with
  | zero => intro _ _ _; exact .error .unsupported
  | succ fuel ih =>
    intro toks acc h
    rw [parseTokens]
    refine (itemLoop_ends toks {} h).elim (fun _ he => .error he) fun (r, last, rest) hrest => ?_
    simp only []
    refine (decideItem_ends r).elim (fun _ he => .error he) fun res _ => ?_
    simp only []
    refine (addItem_ends acc res).elim (fun _ he => .error he) fun a _ => ?_
    exact .by_cases (fun _ => .ok trivial) fun hl => ih rest a (hrest hl)

theorem Range.parse_ends (description : Str) (default : Option Str) :
    Ends PyExn.Clean (fun _ => True) (Range.parse description default) := by
  unfold Range.parse
  simp only []
  split
  · exact .ok trivial
  · refine (liftLex_ends (tokenizeWithoutSpace_tokenized _)).elim (fun _ he => .error he) fun toks htoks => ?_
    simp only []
    exact (parseTokens_ends _ toks [] htoks).elim (fun _ he => .error he) fun _ _ => .ok trivial

end Cutplace
