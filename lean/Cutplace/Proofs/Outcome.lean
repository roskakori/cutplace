import Cutplace.Model.Py
/-
One predicate describes how the model's partial functions (`Except ε α`, mostly `Out α`) may end:
`Ends S P o` says that an error of `o` lies in `S` and a result of `o` satisfies `P`.  Totality proofs
walk along the body of a model function with `Ends.ite` (`Ends.by_cases` where the condition matters),
`Ends.bind`, `Ends.map` and, where the body inspects the outcome of a call by a `match`, `Ends.elim`
on what is known about that call.  `Ends.result` and `Ends.error_mem` use a statement; `Ends.of_ok`
reads a fact about the result of a run that succeeded off a walk yet to be made.
-/
namespace Cutplace

def Ends {ε α : Type} (S : ε → Prop) (P : α → Prop) (o : Except ε α) : Prop :=
  (∀ e, o = .error e → S e) ∧ ∀ a, o = .ok a → P a

namespace Ends
variable {ε α β : Type} {S S' : ε → Prop} {P P' : α → Prop} {Q : β → Prop} {o : Except ε α}

theorem ok {a : α} (h : P a) : Ends S P (.ok a) := ⟨nofun, fun _ h' => by cases h'; exact h⟩

theorem error {e : ε} (h : S e) : Ends S P (.error e : Except ε α) := ⟨fun _ h' => by cases h'; exact h, nofun⟩

/-- The rule for a `match` on the outcome of a call `o`, given what is known about the call:
`refine h.elim (fun e he => ?_) fun a ha => ?_` puts `.error e`, then `.ok a`, for `o` in the goal; `o` has to occur there
as it is written in `h`.  `bind` and `map` are instances. -/
@[elab_as_elim]
theorem elim {motive : Except ε α → Prop} (h : Ends S P o) (error : ∀ e, S e → motive (.error e))
    (ok : ∀ a, P a → motive (.ok a)) : motive o := by
  cases o with
  | error e => exact error e (h.1 e rfl)
  | ok a => exact ok a (h.2 a rfl)

theorem error_mem (h : Ends S P o) {e : ε} (he : o = .error e) : S e := h.1 e he

theorem result (h : Ends S P o) {a : α} (ha : o = .ok a) : P a := h.2 a ha

theorem mono (h : Ends S P o) (hS : ∀ e, S e → S' e) (hP : ∀ a, P a → P' a) : Ends S' P' o :=
  ⟨fun e he => hS e (h.error_mem he), fun a ha => hP a (h.result ha)⟩

theorem by_cases {c : Prop} [Decidable c] {a b : Except ε α} (ha : c → Ends S P a) (hb : ¬c → Ends S P b) :
    Ends S P (if c then a else b) := by
  split
  · exact ha ‹_›
  · exact hb ‹_›

theorem ite {c : Prop} [Decidable c] {a b : Except ε α} (ha : Ends S P a) (hb : Ends S P b) :
    Ends S P (if c then a else b) :=
  .by_cases (fun _ => ha) fun _ => hb

theorem bind {f : α → Except ε β} (h : Ends S P o) (hf : ∀ a, P a → Ends S Q (f a)) : Ends S Q (o >>= f) :=
  h.elim (fun _ he => .error he) hf

theorem map (h : Ends S P o) (f : α → β) (hf : ∀ a, P a → Q (f a)) : Ends S Q (o.map f) :=
  h.elim (fun _ he => .error he) fun a ha => .ok (hf a ha)

/-- nothing claimed of the result: only the errors are described -/
theorem errors_iff : Ends S (fun _ => True) o ↔ ∀ e, o = .error e → S e :=
  ⟨And.left, fun h => ⟨h, fun _ _ => trivial⟩⟩

/-- nothing known of the result but that it is the result -/
theorem self (h : ∀ e, o = .error e → S e) : Ends S (o = .ok ·) o := ⟨h, fun _ h => h⟩

/-- nothing claimed at all: what is known of a call no statement speaks of -/
theorem any : Ends (fun _ => True) (fun _ => True) o := ⟨fun _ _ => ⟨⟩, fun _ _ => ⟨⟩⟩

/-- Reading a fact about the result off a run that succeeded: `refine Ends.of_ok h ?_` turns a goal about `a` into one
about all ways `o` can end, to be shown by walking along the body of `o`. -/
@[elab_as_elim]
theorem of_ok {motive : α → Prop} {a : α} (h : o = .ok a) (ends : Ends (fun _ => True) motive o) : motive a := ends.result h

end Ends

/-! ### error sets with names

The `_ends` statements are written with the error sets `PyExn.Clean` and `PyExn.Clean2`.  The same sets as
predicates on outcomes: `Clean`, `Clean2` and `OnlyUnsupported` are `Ends` at a fixed set of errors with nothing
claimed of the result (`Ends.errors_iff`); `Good2` and `CodeOk` are `Ends` as it stands. -/

/-- an interface error, or input outside the modelled fragment -/
def PyExn.Clean (e : PyExn) : Prop := e = .iface ∨ e = .unsupported

theorem PyExn.Clean.iface : PyExn.Clean .iface := .inl rfl
theorem PyExn.Clean.unsupported : PyExn.Clean .unsupported := .inr rfl

/-- ... or the recorded `OverflowError` finding -/
def PyExn.Clean2 (e : PyExn) : Prop := e = .iface ∨ e = .unsupported ∨ e = .overflow

theorem PyExn.Clean2.iface : PyExn.Clean2 .iface := .inl rfl
theorem PyExn.Clean2.unsupported : PyExn.Clean2 .unsupported := .inr (.inl rfl)
theorem PyExn.Clean2.overflow : PyExn.Clean2 .overflow := .inr (.inr rfl)

theorem Ends.clean2 {α : Type} {P : α → Prop} {o : Out α} (h : Ends PyExn.Clean P o) : Ends PyExn.Clean2 P o :=
  h.mono (fun _ => Or.imp_right .inl) fun _ => id

/-- an outcome whose failure, if any, is a cutplace interface error or "outside the model" -/
def Clean {α : Type} (o : Out α) : Prop := ∀ e, o = .error e → e = .iface ∨ e = .unsupported

theorem Clean.unsupported {α : Type} : Clean (.error .unsupported : Out α) :=
  Ends.errors_iff.1 (.error (S := PyExn.Clean) .unsupported)

theorem Clean.bind {α β : Type} {o : Out α} {f : α → Out β} (h : Clean o) (hf : ∀ a, o = .ok a → Clean (f a)) :
    Clean (o >>= f) :=
  Ends.errors_iff.1 ((Ends.self h).bind fun a ha => Ends.errors_iff.2 (hf a ha))

/-- failure only as interface error, "outside the model", or the recorded `OverflowError` finding -/
def Clean2 {α : Type} (o : Out α) : Prop := ∀ e, o = .error e → e = .iface ∨ e = .unsupported ∨ e = .overflow

theorem Clean2.unsupported {α : Type} : Clean2 (.error .unsupported : Out α) :=
  Ends.errors_iff.1 (.error (S := PyExn.Clean2) .unsupported)
theorem Clean2.overflow {α : Type} : Clean2 (.error .overflow : Out α) :=
  Ends.errors_iff.1 (.error (S := PyExn.Clean2) .overflow)

theorem Clean2.map {α β : Type} {o : Out α} (h : Clean2 o) (f : α → β) : Clean2 (o.map f) :=
  Ends.errors_iff.1 ((Ends.self h).map f fun _ _ => trivial)

/-- failure only as "outside the modelled fragment": a rejection is a result (`none`), not an exception -/
def OnlyUnsupported {α : Type} (o : Out α) : Prop := ∀ e, o = .error e → e = .unsupported

theorem OnlyUnsupported.unsupported {α : Type} : OnlyUnsupported (.error .unsupported : Out α) :=
  Ends.errors_iff.1 (.error rfl)

/-- clean (in the wider sense), and a successful result satisfies `P` -/
def Good2 {α : Type} (P : α → Prop) (o : Out α) : Prop := Clean2 o ∧ ∀ a, o = .ok a → P a

theorem Good2.bind {α β : Type} {P : β → Prop} {o : Out α} {f : α → Out β} (h : Clean2 o)
    (hf : ∀ a, o = .ok a → Good2 P (f a)) : Good2 P (o >>= f) :=
  (Ends.self h).bind hf

theorem Good2.bind_iface {α β : Type} {P : β → Prop} {f : α → Out β} : Good2 P ((Except.error PyExn.iface : Out α) >>= f) :=
  Ends.error (S := PyExn.Clean2) .iface

/-- clean, and a code point that is not negative -/
def CodeOk (o : Out Int) : Prop := Clean o ∧ ∀ c, o = .ok c → 0 ≤ c

theorem CodeOk.unsupported : CodeOk (.error .unsupported) := Ends.error (S := PyExn.Clean) .unsupported

/-- for test vectors: core has no `DecidableEq (Except ε α)`, so that a run ends in `.ok a` is put to the kernel
(`decide +kernel`) through `toOption` -/
theorem Except.eq_ok_of_toOption {ε α : Type} {o : Except ε α} {a : α} (h : o.toOption = some a) : o = .ok a := by
  cases o with
  | error e => cases h
  | ok b => exact congrArg Except.ok (Option.some.inj h)

end Cutplace
