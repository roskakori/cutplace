import Cutplace.Model.Checks
namespace Cutplace

/-- the (key, line) pairs of the rows of `rs` that the check let pass (verdict `none`) -/
def passedKeys (keyCols : List Nat) : List (Row × Nat) → List (Option Veto) → List (List Str × Nat)
  | (row, line) :: rs, none :: vs => (keyOf keyCols row, line) :: passedKeys keyCols rs vs
  | _ :: rs, some _ :: vs => passedKeys keyCols rs vs
  | _, _ => []

theorem seqVerdicts_cons {σ} (c : Check σ) (s : σ) (row : Row) (line : Nat) (rest : List (Row × Nat)) :
    seqVerdicts c s ((row, line) :: rest) =
      ((c.row s row line).2 :: (seqVerdicts c (c.row s row line).1 rest).1, (seqVerdicts c (c.row s row line).1 rest).2) := rfl

theorem unique_row (K : List Nat) (seen : List (List Str × Nat)) (row : Row) (line : Nat) :
    (isUniqueCheck K).row (.unique seen) row line =
      match lookupKey (keyOf K row) seen with
      | some first => (.unique seen, some ⟨some first⟩)
      | none => (.unique (seen ++ [(keyOf K row, line)]), none) := rfl

theorem lookupKey_eq_find? (k : List Str) (l : List (List Str × Nat)) :
    lookupKey k l = (l.find? (·.1 == k)).map (·.2) := by
  induction l with
  | nil => rfl
  | cons e rest ih =>
    rw [lookupKey, List.find?_cons, ih]
    cases e.1 == k <;> rfl

theorem distinct_row (col : Nat) (cmp : Cmp) (n : Int) (vals : List Str) (row : Row) (line : Nat) :
    (distinctCountCheck col cmp n).row (.distinct vals) row line =
      (.distinct (if vals.contains (row.getD col []) then vals else vals ++ [row.getD col []]), none) := by
  simp only [distinctCountCheck]; split <;> rfl

theorem seqVerdicts_append {σ} (c : Check σ) (s : σ) (a b : List (Row × Nat)) :
    seqVerdicts c s (a ++ b) =
      ((seqVerdicts c s a).1 ++ (seqVerdicts c (seqVerdicts c s a).2 b).1, (seqVerdicts c (seqVerdicts c s a).2 b).2) := by
  induction a generalizing s with
  | nil => rfl
  | cons x xs ih => simp only [List.cons_append, seqVerdicts, ih]

theorem passedKeys_append (K : List Nat) (a b : List (Row × Nat)) (va vb : List (Option Veto))
    (h : a.length = va.length) :
    passedKeys K (a ++ b) (va ++ vb) = passedKeys K a va ++ passedKeys K b vb := by
  induction a generalizing va with
  | nil =>
    cases va with
    | nil => simp [passedKeys]
    | cons v vs => cases h
  | cons x xs ih =>
    cases va with
    | nil => cases h
    | cons v vs =>
      have := ih vs (Nat.succ.inj h)
      cases v <;> simp only [passedKeys, List.cons_append, this]

theorem seqVerdicts_length {σ} (c : Check σ) (s : σ) (rs : List (Row × Nat)) :
    (seqVerdicts c s rs).1.length = rs.length := by
  induction rs generalizing s with
  | nil => rfl
  | cons x xs ih => simp [seqVerdicts, ih]

/-- the state of `IsUniqueCheck` is the list it started with and then the keys (with the line of their row) of the
rows it let pass, in input order -/
theorem unique_state (K : List Nat) (seen : List (List Str × Nat)) (rs : List (Row × Nat)) :
    (seqVerdicts (isUniqueCheck K) (.unique seen) rs).2 =
      .unique (seen ++ passedKeys K rs (seqVerdicts (isUniqueCheck K) (.unique seen) rs).1) := by
  induction rs generalizing seen with
  | nil => simp [seqVerdicts, passedKeys]
  | cons x xs ih =>
    obtain ⟨row, line⟩ := x
    rw [seqVerdicts_cons, unique_row]
    cases lookupKey (keyOf K row) seen <;> simp [passedKeys, ih]

/-- After any rows the state of `DistinctCountCheck` lists, without repetition, the values it started with
and those of the counted field; it never vetoes. -/
theorem distinct_state (col : Nat) (cmp : Cmp) (n : Int) (rs : List (Row × Nat)) (vals0 : List Str) (h : vals0.Nodup) :
    ∃ vals, seqVerdicts (distinctCountCheck col cmp n) (.distinct vals0) rs = (rs.map (fun _ => none), .distinct vals) ∧
      vals.Nodup ∧ ∀ v, v ∈ vals ↔ v ∈ vals0 ∨ v ∈ rs.map (fun r => r.1.getD col []) := by
  induction rs generalizing vals0 with
  | nil => exact ⟨vals0, rfl, h, by simp⟩
  | cons x xs ih =>
    obtain ⟨row, line⟩ := x
    simp only [seqVerdicts_cons, distinct_row, List.map_cons, List.mem_cons, List.contains_iff_mem]
    generalize row.getD col [] = x
    by_cases hc : x ∈ vals0
    · obtain ⟨vals, h1, h2, h3⟩ := ih vals0 h
      refine ⟨vals, by rw [if_pos hc, h1], h2, fun v => ?_⟩
      rw [h3]
      constructor
      · rintro (h | h)
        · exact .inl h
        · exact .inr (.inr h)
      · rintro (h | rfl | h)
        · exact .inl h
        · exact .inl hc
        · exact .inr h
    · obtain ⟨vals, h1, h2, h3⟩ :=
        ih (vals0 ++ [x]) (by simpa [List.nodup_append, h] using fun a ha (e : a = x) => hc (e ▸ ha))
      exact ⟨vals, by rw [if_neg hc, h1], h2, fun v => by rw [h3, List.mem_append, List.mem_singleton, or_assoc]⟩

end Cutplace
