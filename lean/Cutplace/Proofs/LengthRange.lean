import Cutplace.Proofs.RangeParse
/-
`create_range_from_length`: the integer range built from a length declaration accepts exactly the
integers whose decimal text has a length the declaration allows.  First the numbers: which integers have a text of a
given length (`textLen_le_iff`), the integer items that stand for a length item (`Gen`) and for a declaration (`genAll`).
Then the text: what the function writes is the rendering of those items (`lengthItemText_eq`, `rangeText_eq`), so that
`parse_render` applies.
-/
namespace Cutplace
open Cutplace.Spec

def textLen (n : Int) : Nat := (intRepr n).length

theorem textLen_eq (n : Int) : textLen n = (if n < 0 then 1 else 0) + numDigits n.natAbs := by
  unfold textLen intRepr natRepr numDigits
  split <;> simp <;> omega

theorem textLen_pos (n : Int) : 1 ≤ (textLen n : Int) := by
  have := numDigits_pos n.natAbs
  rw [textLen_eq]; omega

/-- `10 ^ k` for an integer exponent (non-negative where it is used) -/
def p10 (k : Int) : Int := ((10 ^ k.toNat : Nat) : Int)

theorem p10_zero : p10 0 = 1 := rfl

theorem p10_pos (k : Int) : 1 ≤ p10 k :=
  Int.ofNat_le.mpr (Nat.one_le_pow _ 10 (by omega))

/-! `1 ≤ 10^a ≤ 10^b` and `1 ≤ 10^a < 10^b`, in the form `omega` takes up -/

theorem p10_mono (a b : Int) (h : a ≤ b) : 1 ≤ p10 a ∧ p10 a ≤ p10 b :=
  ⟨p10_pos a, Int.ofNat_le.mpr (Nat.pow_le_pow_right (by omega) (Int.toNat_le_toNat h))⟩

theorem p10_lt (a b : Int) (ha : 0 ≤ a) (h : a < b) : 1 ≤ p10 a ∧ p10 a < p10 b :=
  ⟨p10_pos a, Int.ofNat_lt.mpr (Nat.pow_lt_pow_right (by omega) (by omega))⟩

/-- **the integers whose text has at most `k` characters** lie strictly between `-10^(k-1)` (one character goes to the
sign) and `10^k` -/
theorem textLen_le_iff (n k : Int) (hk : 1 ≤ k) : (textLen n : Int) ≤ k ↔ -(p10 (k - 1)) < n ∧ n < p10 k := by
  have hpos := numDigits_pos n.natAbs
  have h1 := p10_pos (k - 1)
  have h2 := p10_pos k
  rw [textLen_eq]
  by_cases hn : n < 0
  · simp only [hn, if_true]
    have := numDigits_ge_iff n.natAbs ((k - 1).toNat + 1) (by omega) (by omega)
    rw [Nat.add_sub_cancel] at this
    unfold p10 at *; omega
  · simp only [hn, if_false]
    have := numDigits_le_iff n.natAbs k.toNat (by omega)
    unfold p10 at *; omega

theorem le_textLen_iff (n l : Int) (hl : 2 ≤ l) : l ≤ (textLen n : Int) ↔ n ≤ -(p10 (l - 2)) ∨ p10 (l - 1) ≤ n := by
  have := textLen_le_iff n (l - 1) (by omega)
  rw [show l - 1 - 1 = l - 2 by omega] at this
  omega

/-- the integer items `create_range_from_length` writes for one length item (same case split as
`lengthItemText`) -/
def genItems (it : Item) : RangeDesc :=
  let lowSmall := match it.lo with | none => true | some l => l == 0 || l == 1
  if lowSmall then
    match it.hi with
    | none => []
    | some u => if u == 1 then [.closed 0 9] else [.closed (-(p10 (u - 1) - 1)) (p10 u - 1)]
  else
    let l := it.lo.getD 0
    match it.hi with
    | none => [.upto (-(p10 (l - 2))), .from_ (p10 (l - 1))]
    | some u => [.closed (-(p10 (u - 1) - 1)) (-(p10 (l - 2))), .closed (p10 (l - 1)) (p10 u - 1)]

/-- a length item the guards of `create_range_from_length` let pass -/
def LenItemOk (it : ItemD) : Prop :=
  it.WellFormed ∧ (∀ l, it.lo = some l → 0 ≤ l) ∧ (∀ u, it.hi = some u → 1 ≤ u)

/-- the item allows every length (`0...` or `1...`) -/
def IsWhole (it : ItemD) : Prop := it.hi = none ∧ ∀ l, it.lo = some l → l ≤ 1

/-- `genItems` as a table: the four shapes of a length item `lo...hi` and the integer items that stand for each.
A lower limit of at most 1 says nothing (every text has a character). -/
inductive Gen : Option Int → Option Int → RangeDesc → Prop
  | whole {lo} : (∀ l, lo = some l → l ≤ 1) → Gen lo none []
  | upto {lo} (u : Int) : (∀ l, lo = some l → l ≤ 1) → 1 ≤ u → Gen lo (some u) [.closed (-(p10 (u - 1) - 1)) (p10 u - 1)]
  | from_ (l : Int) : 2 ≤ l → Gen (some l) none [.upto (-(p10 (l - 2))), .from_ (p10 (l - 1))]
  | both (l u : Int) : 2 ≤ l → l ≤ u →
      Gen (some l) (some u) [.closed (-(p10 (u - 1) - 1)) (-(p10 (l - 2))), .closed (p10 (l - 1)) (p10 u - 1)]

/-- a lower limit of 0 or 1 is treated like none -/
theorem small_lo (l : Int) (h : l = 0 ∨ l = 1) (hi : Option Int) :
    genItems ⟨some l, hi⟩ = genItems ⟨none, hi⟩ ∧ lengthItemText ⟨some l, hi⟩ = lengthItemText ⟨none, hi⟩ := by
  rcases h with rfl | rfl <;> exact ⟨rfl, rfl⟩

theorem gen_genItems (lo hi : Option Int) (hlo : ∀ l, lo = some l → 0 ≤ l) (hhi : ∀ u, hi = some u → 1 ≤ u)
    (hle : ∀ l u, lo = some l → hi = some u → l ≤ u) : Gen lo hi (genItems ⟨lo, hi⟩) := by
  have small (lo) (h : ∀ l, lo = some l → l ≤ 1) : Gen lo hi (genItems ⟨none, hi⟩) := by
    cases hi with
    | none => exact .whole h
    | some u =>
      -- for `u = 1` the code writes `0...9`, which is what the general formula gives
      by_cases hu : u = 1
      · subst hu; exact .upto 1 h (by omega)
      · simp only [genItems, beq_iff_eq, hu, if_false, if_true]; exact .upto u h (hhi u rfl)
  cases lo with
  | none => exact small none nofun
  | some l =>
    have := hlo l rfl
    by_cases hs : l = 0 ∨ l = 1
    · rw [(small_lo l hs hi).1]; exact small _ (by rintro _ ⟨⟩; omega)
    · simp only [genItems, Bool.or_eq_true, beq_iff_eq, hs, if_false, Option.getD_some]
      cases hi with
      | none => exact .from_ l (by omega)
      | some u => exact .both l u (by omega) (hle l u rfl rfl)

variable {lo hi : Option Int} {D : RangeDesc}

/-- the powers of ten in the limits written for `l...u`, in order -/
theorem p10_row {l u : Int} (hl : 2 ≤ l) (hlu : l ≤ u) :
    1 ≤ p10 (l - 2) ∧ p10 (l - 2) < p10 (l - 1) ∧ p10 (l - 1) ≤ p10 (u - 1) ∧ p10 (u - 1) < p10 u :=
  ⟨p10_pos _, (p10_lt _ _ (by omega) (by omega)).2, (p10_mono _ _ (by omega)).2, (p10_lt _ _ (by omega) (by omega)).2⟩

theorem Gen.accepts (h : Gen lo hi D) (hnw : ¬ (hi = none ∧ ∀ l, lo = some l → l ≤ 1)) (n : Int) :
    Accepts D n ↔ (∀ l, lo = some l → l ≤ (textLen n : Int)) ∧ (∀ u, hi = some u → (textLen n : Int) ≤ u) := by
  have hpos := textLen_pos n
  cases h with
  | whole h => exact absurd ⟨rfl, h⟩ hnw
  | upto u h hu =>
    have := textLen_le_iff n u hu
    rw [and_iff_right fun l hl => Int.le_trans (h l hl) hpos]
    simp [Accepts, ItemD.Mem]; omega
  | from_ l hl =>
    have := le_textLen_iff n l hl
    simp [Accepts, ItemD.Mem]; omega
  | both l u hl hlu =>
    have := textLen_le_iff n u (by omega)
    have := le_textLen_iff n l hl
    have := p10_row hl hlu
    simp [Accepts, ItemD.Mem]; omega

theorem Gen.wf (h : Gen lo hi D) : (∀ g ∈ D, g.WellFormed) ∧ Disjoint D := by
  cases h with
  | whole => simp [Disjoint]
  | upto u =>
    have := p10_pos (u - 1)
    have := p10_pos u
    simp [Disjoint, ItemD.WellFormed]; omega
  | from_ l =>
    have := p10_pos (l - 2)
    have := p10_pos (l - 1)
    simp [Disjoint, ItemD.WellFormed, ItemD.Overlaps, optLe_some, optLe_none_left, ItemD.lo, ItemD.hi]; omega
  | both l u hl hlu =>
    have := p10_row hl hlu
    simp [Disjoint, ItemD.WellFormed, ItemD.Overlaps, optLe_some, ItemD.lo, ItemD.hi]; omega

theorem Gen.nil_iff (h : Gen lo hi D) : D = [] ↔ hi = none ∧ ∀ l, lo = some l → l ≤ 1 := by
  cases h with
  | whole h => exact ⟨fun _ => ⟨rfl, h⟩, fun _ => rfl⟩
  | from_ l hl => exact ⟨nofun, fun hw => by have := hw.2 l rfl; omega⟩
  | _ => exact ⟨nofun, fun hw => nomatch hw.1⟩

/-- no length beyond CPython's `int()` conversion limit (a longer run of nines cannot be converted) -/
def LenBounded (L : RangeDesc) : Prop :=
  ∀ it ∈ L, (∀ l, it.lo = some l → l ≤ maxStrDigits) ∧ (∀ u, it.hi = some u → u ≤ maxStrDigits)

theorem natAbs_lt_iff (x : Int) (k : Nat) : x.natAbs < 10 ^ k ↔ -(p10 k) < x ∧ x < p10 k := by
  simp only [p10, Int.toNat_natCast]; omega

theorem Gen.bounded (h : Gen lo hi D) (hlo : ∀ l, lo = some l → l ≤ maxStrDigits) (hhi : ∀ u, hi = some u → u ≤ maxStrDigits) :
    BoundedLimits D := by
  unfold BoundedLimits
  cases h with
  | whole => simp
  | upto u _ hu =>
    have := p10_lt (u - 1) u (by omega) (by omega)
    have := p10_mono u maxStrDigits (hhi u rfl)
    simp [ItemD.lo, ItemD.hi, natAbs_lt_iff]; omega
  | from_ l hl =>
    have := p10_lt (l - 2) (l - 1) (by omega) (by omega)
    have := p10_lt (l - 1) maxStrDigits (by omega) (by have := hlo l rfl; omega)
    simp [ItemD.lo, ItemD.hi, natAbs_lt_iff]; omega
  | both l u hl hlu =>
    have := p10_row hl hlu
    have := p10_mono u maxStrDigits (hhi u rfl)
    simp [ItemD.lo, ItemD.hi, natAbs_lt_iff]; omega

def genAll (L : RangeDesc) : RangeDesc := L.flatMap (fun it => genItems it.denote)

theorem isWhole_iff (it : ItemD) : IsWhole it ↔ (it.denote.hi = none ∧ ∀ l, it.denote.lo = some l → l ≤ 1) :=
  Iff.rfl

theorem LenItemOk.le {it : ItemD} (h : LenItemOk it) : ∀ l u, it.lo = some l → it.hi = some u → l ≤ u :=
  optLe_iff.1 ((wellFormed_iff it).1 h.1)

theorem LenItemOk.gen {it : ItemD} (h : LenItemOk it) : Gen it.lo it.hi (genItems it.denote) :=
  gen_genItems _ _ h.2.1 h.2.2 h.le

theorem LenItemOk.nil_iff {it : ItemD} (h : LenItemOk it) : genItems it.denote = [] ↔ IsWhole it :=
  h.gen.nil_iff

theorem gen_accepts (it : ItemD) (hok : LenItemOk it) (hnw : ¬ IsWhole it) (n : Int) :
    Accepts (genItems it.denote) n ↔ it.Mem (textLen n : Int) := by
  rw [mem_iff_bounds]
  exact hok.gen.accepts hnw n

theorem genAll_accepts (L : RangeDesc) (hok : ∀ it ∈ L, LenItemOk it) (hnw : ∀ it ∈ L, ¬ IsWhole it) (n : Int) :
    Accepts (genAll L) n ↔ Accepts L (textLen n : Int) := by
  simp only [genAll, Accepts, List.mem_flatMap]
  constructor
  · rintro ⟨g, ⟨it, hit, hg⟩, hm⟩
    exact ⟨it, hit, (gen_accepts it (hok it hit) (hnw it hit) n).mp ⟨g, hg, hm⟩⟩
  · rintro ⟨it, hit, h⟩
    obtain ⟨g, hg, hm⟩ := (gen_accepts it (hok it hit) (hnw it hit) n).mpr h
    exact ⟨g, ⟨it, hit, hg⟩, hm⟩

theorem genAll_wf (L : RangeDesc) (hok : ∀ it ∈ L, LenItemOk it) (hnw : ∀ it ∈ L, ¬ IsWhole it) (hd : Disjoint L) :
    (∀ g ∈ genAll L, g.WellFormed) ∧ Disjoint (genAll L) := by
  have wf : ∀ it ∈ L, ∀ g ∈ genItems it.denote, g.WellFormed := fun it hit => (hok it hit).gen.wf.1
  refine ⟨fun g hg => by obtain ⟨it, hit, hg⟩ := List.mem_flatMap.mp hg; exact wf it hit g hg, ?_⟩
  rw [disjoint_iff_pairwise] at hd ⊢
  refine List.pairwise_flatMap.2 ⟨fun it hit => (disjoint_iff_pairwise _).1 (hok it hit).gen.wf.2,
    hd.imp_of_mem fun {a b} ha hb hab x hx y hy hov => ?_⟩
  -- a common member would have a text length allowed by two different length items
  obtain ⟨v, hxv, hyv⟩ := common_of_overlaps x y (wf a ha x hx) (wf b hb y hy) hov
  exact hab (overlaps_of_common a b _ ((gen_accepts a (hok a ha) (hnw a ha) v).mp ⟨x, hx, hxv⟩)
    ((gen_accepts b (hok b hb) (hnw b hb) v).mp ⟨y, hy, hyv⟩))

theorem genAll_ne_nil (L : RangeDesc) (hne : L ≠ []) (hok : ∀ it ∈ L, LenItemOk it) (hnw : ∀ it ∈ L, ¬ IsWhole it) :
    genAll L ≠ [] := by
  cases L with
  | nil => exact absurd rfl hne
  | cons it rest => simp [genAll, (hok it (by simp)).nil_iff, hnw it (by simp)]

theorem genAll_bounded (L : RangeDesc) (hok : ∀ it ∈ L, LenItemOk it) (hb : LenBounded L) : BoundedLimits (genAll L) := by
  intro g hg
  obtain ⟨it, hit, hg⟩ := List.mem_flatMap.mp hg
  exact (hok it hit).gen.bounded (hb it hit).1 (hb it hit).2 g hg

theorem whole_overlaps (it o : ItemD) (hw : IsWhole it) (ho : LenItemOk o) : it.Overlaps o :=
  ⟨optLe_iff.2 fun l u hl hu => Int.le_trans (hw.2 l hl) (ho.2.2 u hu),
    optLe_iff.2 fun l u _ hu => by rw [hw.1] at hu; cases hu⟩

theorem whole_alone (L : RangeDesc) (hok : ∀ it ∈ L, LenItemOk it) (hd : Disjoint L) (it : ItemD) (hit : it ∈ L)
    (hw : IsWhole it) : L = [it] := by
  cases L with
  | nil => simp at hit
  | cons x rest =>
    cases rest with
    | nil => simp at hit; rw [hit]
    | cons y r =>
      exfalso
      obtain ⟨hd1, _⟩ := hd
      rcases List.mem_cons.mp hit with rfl | hin
      · exact hd1 y (by simp) (whole_overlaps it y hw (hok y (by simp)))
      · exact hd1 it hin (whole_overlaps it x hw (hok x (by simp))).symm

theorem renderLimit_dec (v : Int) : renderLimit .dec 0 v = intRepr v := by
  simp only [renderLimit, intRepr]; split <;> rfl

theorem intRepr_neg (n : Int) (h : 0 < n) : intRepr (-n) = '-' :: intRepr n := by
  simp [intRepr, h, Int.not_lt.mpr (Int.le_of_lt h)]

theorem intRepr_p10 (k : Int) : intRepr (p10 k) = '1' :: zeros k.toNat := by
  simp [intRepr, p10, natRepr, digits_pow10, zeros]; rfl

theorem intRepr_p10_pred (k : Int) (hk : 1 ≤ k) : intRepr (p10 k - 1) = nines k.toNat := by
  obtain ⟨m, hm⟩ : ∃ m, k.toNat = m + 1 := ⟨k.toNat - 1, by omega⟩
  have : p10 k - 1 = ((10 ^ (m + 1) - 1 : Nat) : Int) := by
    have := Nat.one_le_pow (m + 1) 10 (by omega)
    rw [p10, hm]; omega
  rw [this, hm]
  simp [intRepr, natRepr, digits_pow10_pred, nines]; rfl

/-- an item written the way `create_range_from_length` writes it: decimal limits, `...`, no blanks -/
def plain (g : ItemD) : Str := renderItem g {}

theorem plain_eq (g : ItemD) : plain g = match g with
    | .single v => intRepr v
    | .closed l u => intRepr l ++ "...".toList ++ intRepr u
    | .from_ l => intRepr l ++ "...".toList
    | .upto u => "...".toList ++ intRepr u := by
  cases g <;> simp [plain, renderItem, renderSep, blanks, renderLimit_dec]

def commaBlank : Str := [',', ' ']

theorem lengthItemText_eq (lo hi : Option Int) (hlo : ∀ l, lo = some l → 0 ≤ l) (hhi : ∀ u, hi = some u → 1 ≤ u)
    (hle : ∀ l u, lo = some l → hi = some u → l ≤ u) :
    lengthItemText ⟨lo, hi⟩ = (genItems ⟨lo, hi⟩).flatMap (fun g => plain g ++ commaBlank) ++
      (if genItems ⟨lo, hi⟩ = [] then commaBlank else []) := by
  have nines_neg (u : Int) (hu : 2 ≤ u) : intRepr (-(p10 (u - 1) - 1)) = '-' :: nines (u - 1).toNat := by
    have := (p10_lt 0 (u - 1) (by omega) (by omega)).2
    rw [intRepr_neg _ (by rw [p10_zero] at this; omega), intRepr_p10_pred _ (by omega)]
  have small : lengthItemText ⟨none, hi⟩ = (genItems ⟨none, hi⟩).flatMap (fun g => plain g ++ commaBlank) ++
      (if genItems ⟨none, hi⟩ = [] then commaBlank else []) := by
    cases hi with
    | none => rfl
    | some u =>
      have := hhi u rfl
      by_cases hu : u = 1
      · subst hu
        have : intRepr 0 = ['0'] ∧ intRepr 9 = ['9'] := by simp [intRepr, natRepr, digits]; decide
        simp [lengthItemText, genItems, plain_eq, this, commaBlank]
      · simp [lengthItemText, genItems, hu, plain_eq, commaBlank, nines_neg u (by omega), intRepr_p10_pred u this]
  cases lo with
  | none => exact small
  | some l =>
    have := hlo l rfl
    by_cases hs : l = 0 ∨ l = 1
    · rw [(small_lo l hs hi).1, (small_lo l hs hi).2]; exact small
    · have hm := intRepr_neg _ (p10_pos (l - 2))
      cases hi with
      | none =>
        simp [lengthItemText, genItems, hs, plain_eq, commaBlank, hm, intRepr_p10]
      | some u =>
        have := hle l u rfl rfl
        simp [lengthItemText, genItems, hs, plain_eq, commaBlank, hm, intRepr_p10, nines_neg u (by omega),
          intRepr_p10_pred u (by omega)]

/-- ends with a character that `rstrip(" ,")` keeps -/
def EndsVisible (s : Str) : Prop := ∃ t c, s = t ++ [c] ∧ c ≠ ' ' ∧ c ≠ ','

theorem EndsVisible.prepend {s : Str} (h : EndsVisible s) (p : Str) : EndsVisible (p ++ s) := by
  obtain ⟨t, c, rfl, h1, h2⟩ := h
  exact ⟨p ++ t, c, by simp, h1, h2⟩

theorem endsVisible_intRepr (v : Int) : EndsVisible (intRepr v) := by
  have hne := natRepr_ne_nil v.natAbs
  have hd := natRepr_chars _ _ (List.getLast_mem hne)
  have : EndsVisible (natRepr v.natAbs) :=
    ⟨_, _, (List.dropLast_concat_getLast hne).symm, ne_of_class hd (by decide), ne_of_class hd (by decide)⟩
  unfold intRepr
  split
  · exact this.prepend ['-']
  · exact this

theorem endsVisible_plain (g : ItemD) : EndsVisible (plain g) := by
  rw [plain_eq]
  cases g with
  | single v => exact endsVisible_intRepr v
  | from_ l => exact ⟨intRepr l ++ ['.', '.'], '.', by simp, by decide, by decide⟩
  | _ => exact (endsVisible_intRepr _).prepend _

theorem rstripBlankComma_append (s : Str) (h : EndsVisible s) : rstripBlankComma (s ++ commaBlank) = s := by
  obtain ⟨t, c, rfl, h1, h2⟩ := h
  have hb : (c == ' ' || c == ',') = false := by simp [h1, h2]
  simp [rstripBlankComma, commaBlank, List.dropWhile, hb]

/-- spelling of the generated items: nothing special for the first, one blank before each of the others -/
def sp1 : ItemSp := { pad := (1, 0, 0, 0, 0) }
def spsFor (D : RangeDesc) : List ItemSp := {} :: List.replicate D.length sp1

theorem renderItem_sp1 (g : ItemD) : renderItem g sp1 = ' ' :: plain g := by
  simp [renderItem, sp1, plain, Spec.blanks]

/-- item texts each followed by `", "` are the rendered description followed by `", "`, the blank going to the next item -/
theorem render_commaBlank (g : ItemD) (rest : RangeDesc) (sp : ItemSp) (m : Nat) (h : rest.length ≤ m) :
    render (g :: rest) (sp :: List.replicate m sp1) ++ commaBlank =
      renderItem g sp ++ commaBlank ++ rest.flatMap (fun g => plain g ++ commaBlank) := by
  induction rest generalizing g sp m with
  | nil => simp [render]
  | cons g2 r ih =>
    obtain ⟨m, rfl⟩ : ∃ m', m = m' + 1 := ⟨m - 1, by simp at h; omega⟩
    show (renderItem g sp ++ [','] ++ render (g2 :: r) (sp1 :: List.replicate m sp1)) ++ commaBlank = _
    rw [List.append_assoc, ih g2 sp1 m (by simpa using h), renderItem_sp1]
    simp [commaBlank]

theorem rstrip_flatMap (D : RangeDesc) (hne : D ≠ []) :
    rstripBlankComma (D.flatMap (fun g => plain g ++ commaBlank)) = render D (spsFor D) := by
  have h : D.flatMap (fun g => plain g ++ commaBlank) = render D (spsFor D) ++ commaBlank := by
    cases D with
    | nil => exact absurd rfl hne
    | cons g rest => exact (render_commaBlank g rest {} _ (by simp)).symm
  obtain ⟨D0, g, rfl⟩ : ∃ D0 g, D = D0 ++ [g] := ⟨_, _, (List.dropLast_concat_getLast hne).symm⟩
  -- both texts are `... ++ plain g ++ ", "`, so the rendered description ends with the last item's last character
  have hx : (D0 ++ [g]).flatMap (fun g => plain g ++ commaBlank) =
      (D0.flatMap (fun g => plain g ++ commaBlank) ++ plain g) ++ commaBlank := by simp
  rw [hx] at h ⊢
  rw [← List.append_cancel_right h]
  exact rstripBlankComma_append _ ((endsVisible_plain g).prepend _)

theorem lengthItemText_ok (it : ItemD) (hok : LenItemOk it) :
    lengthItemText it.denote = (genItems it.denote).flatMap (fun g => plain g ++ commaBlank) ++
      (if genItems it.denote = [] then commaBlank else []) :=
  lengthItemText_eq it.lo it.hi hok.2.1 hok.2.2 hok.le

/-- the text `create_range_from_length` hands to `Range()` is the rendered generated description -/
theorem rangeText_eq (L : RangeDesc) (hne : L ≠ []) (hok : ∀ it ∈ L, LenItemOk it) (hnw : ∀ it ∈ L, ¬ IsWhole it) :
    rangeTextFromLength (denote L) = render (genAll L) (spsFor (genAll L)) := by
  rw [← rstrip_flatMap _ (genAll_ne_nil L hne hok hnw), rangeTextFromLength]
  congr 1
  clear hne
  induction L with
  | nil => rfl
  | cons it rest ih =>
    have hokit := hok it (by simp)
    simp only [denote, List.map_cons, List.flatten_cons, genAll, List.flatMap_cons, List.flatMap_append,
      lengthItemText_ok it hokit, hokit.nil_iff, hnw it (by simp), if_false, List.append_nil]
    congr 1
    exact ih (fun x hx => hok x (by simp [hx])) (fun x hx => hnw x (by simp [hx]))

theorem rangeText_whole (it : ItemD) (hok : LenItemOk it) (hw : IsWhole it) : rangeTextFromLength (denote [it]) = [] := by
  simp only [rangeTextFromLength, denote, List.map_cons, List.map_nil, List.flatten_cons,
    lengthItemText_ok it hok, hok.nil_iff.2 hw]
  decide

theorem legal_of_dec (D : RangeDesc) (sps : List ItemSp) (h : ∀ sp ∈ sps, sp.lo = .dec ∧ sp.hi = .dec) :
    LegalSpelling D sps := by
  induction D generalizing sps with
  | nil => trivial
  | cons it rest ih =>
    refine ⟨?_, ih sps.tail (fun sp hsp => h sp (List.mem_of_mem_tail hsp))⟩
    obtain ⟨h1, h2⟩ : (sps.headD {}).lo = .dec ∧ (sps.headD {}).hi = .dec := by
      cases sps with
      | nil => exact ⟨rfl, rfl⟩
      | cons sp _ => exact h sp (by simp)
    generalize sps.headD {} = sp at h1 h2 ⊢
    cases it <;> simp [ItemSp.Legal, h1, h2, LimitSp.Legal]

theorem legal_spsFor (D : RangeDesc) : LegalSpelling D (spsFor D) := by
  apply legal_of_dec
  intro sp hsp
  simp only [spsFor, List.mem_cons, List.mem_replicate] at hsp
  rcases hsp with rfl | ⟨_, rfl⟩ <;> exact ⟨rfl, rfl⟩

theorem exceeds_eq_false {o : Option Int} {limit : Int} : exceeds o limit = false ↔ ∀ v, o = some v → v ≤ limit := by
  cases o <;> simp [exceeds]

theorem lengthItemBad_eq_false {i : Item} :
    lengthItemBad i = false ↔ (∀ l, i.lo = some l → 0 ≤ l) ∧ (∀ u, i.hi = some u → 1 ≤ u) := by
  obtain ⟨lo, hi⟩ := i
  cases lo <;> cases hi <;> simp [lengthItemBad]

theorem guards_pass (L : RangeDesc) (hok : ∀ it ∈ L, LenItemOk it) (hb : LenBounded L) :
    (denote L).any lengthItemBad = false ∧
    (denote L).any (fun i => exceeds i.lo 9223372036854775808 || exceeds i.hi 9223372036854775808) = false ∧
    (denote L).any (fun i => exceeds i.lo 10000 || exceeds i.hi 10000) = false := by
  have hm : (maxStrDigits : Int) = 4300 := rfl
  simp only [denote, List.any_map, List.any_eq_false, Function.comp_apply, Bool.or_eq_true, not_or, Bool.not_eq_true,
    exceeds_eq_false, lengthItemBad_eq_false, ItemD.denote]
  -- no length is negative or beyond the conversion limit, which is below both thresholds
  refine ⟨fun it hit => (hok it hit).2, ?_, ?_⟩ <;>
    exact fun it hit => ⟨fun l hl => by have := (hb it hit).1 l hl; omega, fun u hu => by have := (hb it hit).2 u hu; omega⟩

/-- for a declaration that allows every length: the range that accepts everything -/
theorem createRangeFromLength_whole (it : ItemD) (hok : LenItemOk it) (hb : LenBounded [it]) (hw : IsWhole it) :
    createRangeFromLength (rangeOfItems (denote [it])) = .ok emptyRange := by
  obtain ⟨g1, g2, g3⟩ := guards_pass [it] (by simpa using hok) hb
  simp only [createRangeFromLength, rangeOfItems, g1, g2, g3, Bool.false_eq_true, if_false, rangeText_whole it hok hw]
  rfl

/-- for any other well-formed declaration: the range of the generated integer items -/
theorem createRangeFromLength_gen (L : RangeDesc) (hwf : WellFormed L) (hok : ∀ it ∈ L, LenItemOk it) (hb : LenBounded L)
    (hnw : ∀ it ∈ L, ¬ IsWhole it) : createRangeFromLength (rangeOfItems (denote L)) = .ok (rangeOfItems (denote (genAll L))) := by
  obtain ⟨hne, -, hdis⟩ := hwf
  obtain ⟨g1, g2, g3⟩ := guards_pass L hok hb
  obtain ⟨w1, w2⟩ := genAll_wf L hok hnw hdis
  simp only [createRangeFromLength, rangeOfItems, g1, g2, g3, Bool.false_eq_true, if_false, rangeText_eq L hne hok hnw]
  exact parse_render (genAll L) (spsFor (genAll L)) ⟨genAll_ne_nil L hne hok hnw, w1, w2⟩ (legal_spsFor _)
    (convertible_of_bounded _ _ (genAll_bounded L hok hb)) none
end Cutplace
