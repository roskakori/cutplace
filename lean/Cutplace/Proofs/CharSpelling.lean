import Cutplace.Proofs.RangeParse
import Cutplace.Spec.DataFormat
/-
Values of data format properties.  Spellings of a character (`DataFormat._validated_character`): a text
that `generated_tokens` takes as one token is read as that token (`validatedCharacterCode_token`).  The limit
spellings of ranges are such texts (a limit that is not negative is a single word), and so is the escape
`'\xHH'`.  Numbers (`header`, `sheet`): `_validated_int_at_least_0` against `int()`.
-/

namespace Cutplace
open Cutplace.Spec

theorem Word.strip {k : TokKind} {w : Str} (hw : Word k w) : strip w = w := by
  rcases hw.shape with ⟨_, h⟩ | ⟨dq, ch, rfl, _⟩
  · exact strip_of_no_space w fun c hc => isWordStart_not_space (by simp [isWordStart, h c hc])
  · have hq : isPySpace (quoteChar dq) = false := by cases dq <;> decide
    exact strip_eq_self (by simpa using hq) (by simpa using hq)

/-- `generated_tokens` adds nothing to the tokens of a text that does not start with a blank or a tab -/
theorem generatedTokens_eq_lexAll {c : Char} {cs : Str} (h1 : c ≠ ' ') (h2 : c ≠ '\t') :
    generatedTokens (c :: cs) = lexAll (c :: cs) := by
  unfold generatedTokens
  cases lexAll (c :: cs) <;> simp [spanChars, h1, h2]

/-- `_validated_character` reads a text that is one token, with no white space around it, as that token, unless the
text is a single character other than a digit, which stands for itself -/
theorem validatedCharacterCode_token {t : Tok} (htoks : generatedTokens t.text = .ok [t, eofTok]) (heof : t.isEof = false)
    (hstrip : strip t.text = t.text) (hsingle : ∀ c, t.text = [c] → isAsciiDigit c = true) :
    validatedCharacterCode t.text = tokenCode t := by
  have hvia : validatedCharacterCode.viaTokens t.text = tokenCode t := by
    simp only [validatedCharacterCode.viaTokens, htoks, heof]
    cases tokenCode t <;> rfl
  unfold validatedCharacterCode
  simp only [hstrip]
  split
  · simp [hsingle _ ‹_›, hvia]
  · exact hvia

theorem generatedTokens_word {k : TokKind} {w : Str} (hw : Word k w) : generatedTokens w = .ok [⟨k, w⟩, eofTok] := by
  obtain ⟨c, cs, rfl, hc⟩ := hw.head
  rw [generatedTokens_eq_lexAll (ne_of_class hc (by decide)) (ne_of_class hc (by decide))]
  simpa using (Lexed.word hw Delim.nil .nil).lexAll

theorem validatedCharacterCode_word {k : TokKind} {w : Str} (hw : Word k w) (hsingle : ∀ c, w = [c] → isAsciiDigit c = true) :
    validatedCharacterCode w = tokenCode ⟨k, w⟩ :=
  validatedCharacterCode_token (t := ⟨k, w⟩) (generatedTokens_word hw) (by cases hw <;> rfl) hw.strip hsingle

theorem renderLimit_nonneg (sp : LimitSp) (pm : Nat) {v : Int} (hv : 0 ≤ v) (hl : sp.Legal v) :
    ∃ k, Word k (renderLimit sp pm v) ∧ limitToks sp v = [⟨k, renderLimit sp pm v⟩] := by
  obtain ⟨k, w, hw, htext, htoks⟩ := renderLimit_word sp pm hl
  have hneg : ¬ v < 0 := by omega
  rw [if_neg hneg, List.nil_append] at htext
  exact ⟨k, htext ▸ hw, by simp [htoks, signToks, hneg, htext]⟩

/-- the token of a limit that is not negative stands for the limit's value; only a decimal digit is
written as a single character -/
theorem limitTok_code {sp : LimitSp} {v : Int} (hv : 0 ≤ v) (hl : sp.Legal v) (hc : sp.Convertible v) :
    ∀ t ∈ limitToks sp v, tokenCode t = .ok v ∧ ∀ c, t.text = [c] → isAsciiDigit c = true := by
  have hsign : signToks v = [] := if_neg (by omega)
  have habs : (v.natAbs : Int) = v := by omega
  cases sp <;> simp only [limitToks, hsign, List.nil_append, List.mem_singleton, forall_eq]
  case dec =>
    exact ⟨by simp [tokenCode, codeForNumber, pyIntBase0_natRepr _ hc, habs],
      fun c h => natRepr_chars v.natAbs c (by simp [h])⟩
  case hex bigX up =>
    refine ⟨by simp [tokenCode, codeForNumber, pyIntBase0_hexText, habs], fun c h => ?_⟩
    have := congrArg List.length h
    simp [hexText] at this
  case quoted dq => exact ⟨by simp [tokenCode, codeForString_quoted dq v hl], fun c h => by simp at h⟩
  case sym caps =>
    obtain ⟨hcode, hlen, _⟩ := symText_table caps v hl
    exact ⟨by simp [tokenCode, hcode], fun c h => by rw [h] at hlen; simp at hlen⟩

/-- **Every spelling of a character value denotes that value**: `_validated_character` on a code
point written in decimal, in `0x` hexadecimal, as a quoted character or as a symbolic name. -/
theorem validatedCharacterCode_limit (sp : LimitSp) (pm : Nat) (v : Int) (hv : 0 ≤ v) (hl : sp.Legal v) (hc : sp.Convertible v) :
    validatedCharacterCode (renderLimit sp pm v) = .ok v := by
  obtain ⟨k, hw, htoks⟩ := renderLimit_nonneg sp pm hv hl
  obtain ⟨hcode, hsingle⟩ := limitTok_code hv hl hc _ (htoks ▸ List.mem_singleton_self _)
  rw [validatedCharacterCode_word hw hsingle, hcode]

theorem hexPad_two {c : Nat} (hc : c < 256) : hexPad 2 c = [hexDigitChar false (c / 16), hexDigitChar false (c % 16)] := by
  unfold hexPad
  rw [hexDigits]
  split
  · rw [Nat.div_eq_of_lt ‹_›, Nat.mod_eq_of_lt ‹_›]; rfl
  · rw [hexDigits, dif_pos (by omega)]; rfl

/-- `chr()` of a scalar value (a code point that is no surrogate) -/
theorem pyChr_natCast {n : Nat} (h : n < 0x110000) (hs : ¬ (0xD800 ≤ n ∧ n ≤ 0xDFFF)) : pyChr n = .ok (Char.ofNat n) := by
  have h2 : ¬ ((n : Int) ≥ 0x110000) := by omega
  have h3 : ¬ ((0xD800 : Int) ≤ n ∧ (n : Int) ≤ 0xDFFF) := by omega
  simp [pyChr, h2, h3]

theorem pyChr_toNat (c : Char) : pyChr c.toNat = .ok c := by
  have hv : c.toNat.isValidChar := c.valid
  unfold Nat.isValidChar at hv
  rw [pyChr_natCast (by omega) (by omega), Char.ofNat_toNat]

/-- The text `'\xHH'`, in either quote and for any two hexadecimal digits, is one STRING token: in the body the backslash takes
the `x` with it, and a hexadecimal digit is an ordinary character. -/
theorem lexAll_escapedHex (dq : Bool) {a b : Char} (ha : isHexDigit a = true) (hb : isHexDigit b = true) :
    lexAll [quoteChar dq, '\\', 'x', a, b, quoteChar dq] =
      .ok [⟨.string, [quoteChar dq, '\\', 'x', a, b, quoteChar dq]⟩, eofTok] := by
  have hq : quoteChar dq ≠ '\\' ∧ quoteChar dq ≠ '\n' ∧ quoteChar dq ≠ '\r' ∧ quoteChar dq ≠ '\x0c' := by cases dq <;> decide
  have ord : ∀ {c : Char}, isHexDigit c = true → c ≠ '\\' ∧ c ≠ quoteChar dq ∧ c ≠ '\n' ∧ c ≠ '\r' ∧ c ≠ '\x0c' := fun h =>
    ⟨ne_of_class h (by decide), by cases dq <;> exact ne_of_class h (by decide), ne_of_class h (by decide),
      ne_of_class h (by decide), ne_of_class h (by decide)⟩
  have hbody : lexStringBody (quoteChar dq) ['\\', 'x', a, b, quoteChar dq] = .ok (['\\', 'x', a, b, quoteChar dq], []) := by
    simp [lexStringBody_escape, lexStringBody_cons _ _ _ (ord ha).1, lexStringBody_cons _ _ _ (ord hb).1,
      lexStringBody_cons _ _ _ hq.1, (ord ha).2.1, (ord hb).2.1]
  unfold lexAll
  rw [if_neg (by simp [ord ha, ord hb, hq]),
    lexLoop_string (by cases dq <;> simp [quoteChar]) (by simp [startsWith, hq.1.symm]) hbody (by simp)]
  simp [lexLoop, eofTok]

/-- **The escaped spelling `'\xHH'` denotes the character with the code its digits denote**: `_validated_character` takes
the text as its one token (`lexAll_escapedHex`), and `unicode_escape` decoding reads the two digits (`codeForString_escapedHex`). -/
theorem validatedCharacter_escapedHex (dq : Bool) {a b : Char} (ha : isHexDigit a = true) (hb : isHexDigit b = true) :
    validatedCharacter [quoteChar dq, '\\', 'x', a, b, quoteChar dq] = .ok (Char.ofNat (hexVal a * 16 + hexVal b)) := by
  have hq : quoteChar dq ≠ ' ' ∧ quoteChar dq ≠ '\t' ∧ isPySpace (quoteChar dq) = false := by cases dq <;> decide
  unfold validatedCharacter
  rw [validatedCharacterCode_token (t := ⟨.string, _⟩) ((generatedTokens_eq_lexAll hq.1 hq.2.1).trans (lexAll_escapedHex dq ha hb))
    rfl (strip_eq_self (by simpa using hq.2.2) (by simpa using hq.2.2)) (fun c h => nomatch h)]
  simp [tokenCode, codeForString_escapedHex dq ha hb, pyChr_toNat]

/-- `_validated_int_at_least_0` on ASCII text returns the value of an integer literal that is not negative
(`header` asks for `m = 0`, `sheet` for `m = 1`) -/
theorem validatedIntAtLeast0_ge {value : Str} (ha : isAscii value = true) (m : Nat) :
    (∃ n, validatedIntAtLeast0 value = .ok n ∧ m ≤ n) ↔ ∃ i : Int, pyIntBase10 value = some i ∧ (m : Int) ≤ i := by
  simp only [validatedIntAtLeast0, ha, Bool.not_true, Bool.false_eq_true]
  cases pyIntBase10 value with
  | none => simp
  | some i =>
    by_cases hi : i < 0
    · simp [hi]; omega
    · simp [hi]; omega

end Cutplace
