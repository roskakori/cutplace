import Cutplace.Spec.Range
namespace Cutplace
open Cutplace.Spec

theorem validateLoop_eq_any (v : Int) (its : Items) : validateLoop v its = its.any (·.contains v) := by
  induction its with
  | nil => rfl
  | cons it rest ih =>
    rw [List.any_cons, ← ih]
    -- the loop inlines the body of `Item.contains`
    show (if it.contains v = true then true else validateLoop v rest) = _
    cases it.contains v <;> rfl

theorem contains_denote_iff (it : ItemD) (v : Int) :
    it.denote.contains v = true ↔ it.Mem v := by
  cases it <;> simp [ItemD.denote, ItemD.lo, ItemD.hi, Item.contains, ItemD.Mem] <;> omega

theorem validate_denote (d : RangeDesc) (v : Int) : (rangeOfItems (denote d)).validate v = true ↔ Accepts d v := by
  simp [Range.validate, rangeOfItems, validateLoop_eq_any, denote, Accepts, contains_denote_iff]

theorem mem_iff_bounds (it : ItemD) (v : Int) :
    it.Mem v ↔ (∀ l, it.lo = some l → l ≤ v) ∧ (∀ u, it.hi = some u → v ≤ u) := by
  cases it <;> simp [ItemD.Mem, ItemD.lo, ItemD.hi] <;> omega

theorem mem_of_limit {b : ItemD} (hb : b.WellFormed) {v : Int} (h : b.lo = some v ∨ b.hi = some v) : b.Mem v := by
  cases b <;> simp [ItemD.lo, ItemD.hi, ItemD.Mem, ItemD.WellFormed] at * <;> omega

theorem optLe_some (l u : Int) : optLe (some l) (some u) ↔ l ≤ u := Iff.rfl

theorem optLe_none_left (o : Option Int) : optLe none o := by cases o <;> trivial

theorem optLe_iff {lo hi : Option Int} : optLe lo hi ↔ ∀ l u, lo = some l → hi = some u → l ≤ u := by
  cases lo <;> cases hi <;> simp [optLe]

theorem wellFormed_iff (it : ItemD) : it.WellFormed ↔ optLe it.lo it.hi := by
  cases it <;> simp [ItemD.WellFormed, optLe, ItemD.lo, ItemD.hi]

theorem overlaps_of_common (a b : ItemD) (v : Int) (ha : a.Mem v) (hb : b.Mem v) : a.Overlaps b := by
  rw [mem_iff_bounds] at ha hb
  exact ⟨optLe_iff.2 fun l u hl hu => Int.le_trans (ha.1 l hl) (hb.2 u hu),
    optLe_iff.2 fun l u hl hu => Int.le_trans (hb.1 l hl) (ha.2 u hu)⟩

theorem common_of_overlaps (a b : ItemD) (ha : a.WellFormed) (hb : b.WellFormed) (h : a.Overlaps b) :
    ∃ v, a.Mem v ∧ b.Mem v := by
  -- the larger of the lower limits if there is one, otherwise the smaller of the upper limits
  refine ⟨match a.lo, b.lo with
    | some l, some l' => max l l' | some l, none => l | none, some l' => l'
    | none, none => match a.hi, b.hi with
      | some u, some u' => min u u' | some u, none => u | none, some u' => u' | none, none => 0, ?_⟩
  cases a <;> cases b <;> simp [ItemD.Mem, ItemD.Overlaps, optLe, ItemD.lo, ItemD.hi, ItemD.WellFormed] at * <;> omega

/-- `Disjoint` is core's `Pairwise`, so that core's lemmas about `++` and `flatMap` apply -/
theorem disjoint_iff_pairwise (D : RangeDesc) : Disjoint D ↔ D.Pairwise (¬ ·.Overlaps ·) := by
  induction D with
  | nil => simp [Disjoint]
  | cons it rest ih => rw [Disjoint, List.pairwise_cons, ih]

theorem disjoint_append_iff (a b : RangeDesc) :
    Disjoint (a ++ b) ↔ Disjoint a ∧ Disjoint b ∧ ∀ x ∈ a, ∀ y ∈ b, ¬ x.Overlaps y := by
  simp only [disjoint_iff_pairwise, List.pairwise_append]

/-! ### overall limits

`Range` and `DecimalRange` compute `_lower_limit` and `_upper_limit` by one loop: of the items' limits on one side
(`p`) keep the one that `better` prefers; an item open on that side makes the result `None` for good. -/

section limit
variable {ι α : Type} (p : ι → Option α) (better : α → α → Prop) [DecidableRel better]

/-- `lowerLimitLoop` with the side and the comparison left open (see `lowerLimitLoop_eq`) -/
def limitLoop : Option α → Bool → List ι → Option α
  | cur, _, [] => cur
  | cur, first, it :: rest =>
    let cur := if first then p it else cur
    let cur := match p it with
      | none => none
      | some l => (match cur with
                   | some c => if better l c then some l else some c
                   | none => none)
    limitLoop cur false rest

theorem limitLoop_first (it : ι) (rest : List ι) :
    limitLoop p better none true (it :: rest) = limitLoop p better (p it) false rest := by
  cases h : p it <;> simp [limitLoop, h]

theorem limitLoop_eq_none_iff (cur : Option α) (its : List ι) :
    limitLoop p better cur false its = none ↔ cur = none ∨ ∃ it ∈ its, p it = none := by
  induction its generalizing cur with
  | nil => simp [limitLoop]
  | cons it rest ih =>
    simp only [limitLoop, ih, List.mem_cons, exists_eq_or_imp]
    cases p it <;> cases cur <;> simp
    split <;> simp

variable {p better} {le : α → α → Prop} {ok : α → Prop}

/-- When `better` decides a total preorder `le` on the limits that occur (`ok`), the loop returns a least one. -/
theorem limitLoop_eq_some {its : List ι} {c m : α} (h : limitLoop p better (some c) false its = some m)
    (trans : ∀ {a b c}, le a b → le b c → le a c) (total : ∀ a b, ok a → ok b → if better a b then le a b else le b a)
    (hok : ∀ it ∈ its, ∀ l, p it = some l → ok l) (hc : ok c) :
    le m c ∧ (∀ it ∈ its, ∃ l, p it = some l ∧ le m l) ∧ (m = c ∨ ∃ it ∈ its, p it = some m) := by
  induction its generalizing c with
  | nil => cases h; exact ⟨by simpa using total m m hc hc, by simp, .inl rfl⟩
  | cons it rest ih =>
    have hrest := fun it' h' => hok it' (List.mem_cons_of_mem _ h')
    simp only [List.mem_cons, forall_eq_or_imp, exists_eq_or_imp]
    rw [limitLoop] at h
    cases hl : p it with
    | none => simp [hl, (limitLoop_eq_none_iff p better none rest).mpr] at h
    | some l =>
      have hokl := hok it List.mem_cons_self l hl
      have ht := total l c hokl hc
      simp only [hl, Bool.false_eq_true, if_false] at h
      split at h
      · obtain ⟨h1, h2, h3⟩ := ih h hrest hokl
        simp only [*, if_true] at ht
        exact ⟨trans h1 ht, ⟨⟨l, rfl, h1⟩, h2⟩, .inr (h3.imp (fun e : m = l => e ▸ rfl) id)⟩
      · obtain ⟨h1, h2, h3⟩ := ih h hrest hc
        simp only [*] at ht
        exact ⟨h1, ⟨⟨l, rfl, trans h1 ht⟩, h2⟩, h3.imp id .inr⟩

theorem limitOf_eq_some {its : List ι} {m : α} (h : limitLoop p better none true its = some m)
    (trans : ∀ {a b c}, le a b → le b c → le a c) (total : ∀ a b, ok a → ok b → if better a b then le a b else le b a)
    (hok : ∀ it ∈ its, ∀ l, p it = some l → ok l) :
    (∀ it ∈ its, ∃ l, p it = some l ∧ le m l) ∧ ∃ it ∈ its, p it = some m := by
  cases its with
  | nil => cases h
  | cons it rest =>
    rw [limitLoop_first] at h
    cases hc : p it with
    | none => simp [hc, (limitLoop_eq_none_iff p better none rest).mpr] at h
    | some c =>
      obtain ⟨h1, h2, h3⟩ := limitLoop_eq_some (hc ▸ h) @trans total (fun it' h' => hok it' (List.mem_cons_of_mem _ h'))
        (hok it List.mem_cons_self c hc)
      simp only [List.mem_cons, forall_eq_or_imp, exists_eq_or_imp, hc]
      exact ⟨⟨⟨c, rfl, h1⟩, h2⟩, h3.imp (fun e : m = c => e ▸ rfl) id⟩

theorem limitOf_eq_none_iff {its : List ι} :
    limitLoop p better none true its = none ↔ its = [] ∨ ∃ it ∈ its, p it = none := by
  cases its with
  | nil => simp [limitLoop]
  | cons it rest => simp [limitLoop_first, limitLoop_eq_none_iff]

end limit

-- Here and in the two decimal instances (`Proofs/DecRange`) the two sides differ only in the names of the auxiliary `match`
-- functions, which `rfl` sees through once the scrutinees are constructors.
theorem lowerLimitLoop_eq : lowerLimitLoop = limitLoop Item.lo (· < ·) := by
  funext cur first its
  induction its generalizing cur first with
  | nil => rfl
  | cons it rest ih => rw [lowerLimitLoop, limitLoop, ih]; cases it.lo <;> cases first <;> cases cur <;> rfl

theorem upperLimitLoop_eq : upperLimitLoop = limitLoop Item.hi (· > ·) := by
  funext cur first its
  induction its generalizing cur first with
  | nil => rfl
  | cons it rest ih => rw [upperLimitLoop, limitLoop, ih]; cases it.hi <;> cases first <;> cases cur <;> rfl

end Cutplace
