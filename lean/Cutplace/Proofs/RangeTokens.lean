import Cutplace.Proofs.RangeLemmas
import Cutplace.Proofs.DigitLemmas
import Cutplace.Proofs.LexLoop
/-
Token level of `Range.__init__`: the token stream of a description written in the documented
grammar (`bodyToks`, then the end marker) is parsed into exactly the items the description denotes.
-/

namespace Cutplace
open Cutplace.Spec

def minusTok : Tok := ⟨.op, ['-']⟩
def colonTok : Tok := ⟨.op, [':']⟩
def commaTok : Tok := ⟨.op, [',']⟩
def eofTok : Tok := ⟨.endmarker, []⟩

def signToks (v : Int) : List Tok := if v < 0 then [minusTok] else []

def quoteChar (dq : Bool) : Char := if dq then '"' else '\''

def hexText (bigX up : Bool) (n : Nat) : Str :=
  ['0', if bigX then 'X' else 'x'] ++ (hexDigits n).map (hexDigitChar up)

def symText (caps : Bool) (v : Int) : Str := if caps then (symName v).map upperChar else symName v

def limitToks (sp : LimitSp) (v : Int) : List Tok :=
  match sp with
  | .dec => signToks v ++ [⟨.number, natRepr v.natAbs⟩]
  | .hex bigX up => signToks v ++ [⟨.number, hexText bigX up v.natAbs⟩]
  | .quoted dq => [⟨.string, [quoteChar dq, Char.ofNat v.toNat, quoteChar dq]⟩]
  | .sym caps => [⟨.name, symText caps v⟩]

def itemToks (it : ItemD) (sp : ItemSp) : List Tok :=
  match it with
  | .single v => limitToks sp.lo v
  | .closed l u => limitToks sp.lo l ++ colonTok :: limitToks sp.hi u
  | .from_ l => limitToks sp.lo l ++ [colonTok]
  | .upto u => colonTok :: limitToks sp.hi u

/-- the tokens of a description, the end marker apart -/
def bodyToks : RangeDesc → List ItemSp → List Tok
  | [], _ => []
  | [it], sps => itemToks it (sps.headD {})
  | it :: it2 :: rest, sps => itemToks it (sps.headD {}) ++ commaTok :: bodyToks (it2 :: rest) sps.tail

/-- decimal limits must stay within CPython's `int()` conversion limit -/
def _root_.Cutplace.Spec.LimitSp.Convertible (sp : LimitSp) (v : Int) : Prop :=
  match sp with
  | .dec => (digits v.natAbs).length ≤ maxStrDigits
  | _ => True

def _root_.Cutplace.Spec.ItemSp.Convertible (sp : ItemSp) (it : ItemD) : Prop :=
  match it with
  | .single v => sp.lo.Convertible v
  | .closed l u => sp.lo.Convertible l ∧ sp.hi.Convertible u
  | .from_ l => sp.lo.Convertible l
  | .upto u => sp.hi.Convertible u

def ConvertibleSpelling : RangeDesc → List ItemSp → Prop
  | [], _ => True
  | it :: rest, sps => (sps.headD {}).Convertible it ∧ ConvertibleSpelling rest sps.tail

theorem natRepr_decLit (n : Nat) : DecLit (natRepr n) where
  ne := natRepr_ne_nil n
  digits := natRepr_chars n
  lead := by
    intro c r h
    rcases Nat.eq_zero_or_pos n with rfl | hn
    · simp [natRepr, digits] at h
    · -- `n > 0`: the first digit is not zero
      obtain ⟨d, ds, hd, hne⟩ := digits_head_ne_zero n hn
      rw [natRepr, hd, List.map_cons, List.cons.injEq] at h
      have := congrArg digitVal h.1
      rw [digitVal_digitChar d (digits_lt10 n d (by simp [hd]))] at this
      exact hne this

/-- the decimal branch of `int(text, 0)` -/
theorem pyIntBase0_decLit {w : Str} (hw : DecLit w) (hl : w.length ≤ maxStrDigits) :
    pyIntBase0 w = some (parseDigits (w.map digitVal)) := by
  have hdrop := dropDigitUnderscores_all isAsciiDigit (by decide) w hw.ne hw.digits
  have hlen : ¬ w.length > maxStrDigits := by omega
  unfold pyIntBase0
  -- in the six branches for a base prefix the second character, a letter, would be a digit
  split <;> first
    | exact absurd (hw.digits _ (.tail _ (.head _))) (by decide)
    | skip
  simp only [hdrop, hlen, if_false]
  split
  · exact absurd rfl (hw.lead _ _)
  · rfl

theorem pyIntBase0_natRepr (n : Nat) (hd : (digits n).length ≤ maxStrDigits) : pyIntBase0 (natRepr n) = some n := by
  rw [pyIntBase0_decLit (natRepr_decLit n) (by simpa [natRepr] using hd), natRepr,
    map_digitVal_digitChar _ (digits_lt10 n), parse_digits]

theorem parse_hexDigits (n : Nat) : parseBase 16 (hexDigits n) = n := by
  fun_induction hexDigits n with
  | case1 n _ => simp [parseBase]
  | case2 n _ ih => rw [parseBase_snoc, ih]; omega

theorem hexDigits_lt16 (n : Nat) : ∀ d ∈ hexDigits n, d < 16 := by
  fun_induction hexDigits n with
  | case1 n h => simpa using h
  | case2 n _ ih =>
    intro d hd
    rcases List.mem_append.mp hd with hd | hd
    · exact ih d hd
    · rw [List.mem_singleton.mp hd]; omega

theorem hexDigits_ne_nil (n : Nat) : hexDigits n ≠ [] := by
  unfold hexDigits; split <;> simp

theorem hexDigitChar_facts (up : Bool) (d : Nat) (h : d < 16) :
    isHexDigit (hexDigitChar up d) = true ∧ hexVal (hexDigitChar up d) = d := by
  revert up d
  decide

theorem hexChars (up : Bool) (n : Nat) : ∀ c ∈ (hexDigits n).map (hexDigitChar up), isHexDigit c = true := by
  intro c hc
  obtain ⟨d, hd, rfl⟩ := List.mem_map.mp hc
  exact (hexDigitChar_facts up d (hexDigits_lt16 n d hd)).1

/-- the hexadecimal branch of `int(text, 0)` -/
theorem pyIntBase0_hex {x : Char} (hx : x = 'x' ∨ x = 'X') {ds : Str} (hne : ds ≠ []) (h : ∀ c ∈ ds, isHexDigit c = true) :
    pyIntBase0 ('0' :: x :: ds) = some (parseBase 16 (ds.map hexVal)) := by
  have hdrop := dropDigitUnderscores_all isHexDigit (by decide) ds hne h
  obtain ⟨c, cs, rfl⟩ := List.exists_cons_of_ne_nil hne
  have hc : c ≠ '_' := ne_of_class (h c (by simp)) (by decide)
  rcases hx with rfl | rfl <;> simp [pyIntBase0, hdrop, hc]

theorem pyIntBase0_hexText (bigX up : Bool) (n : Nat) : pyIntBase0 (hexText bigX up n) = some n := by
  have hval : ((hexDigits n).map (hexDigitChar up)).map hexVal = hexDigits n :=
    List.map_map.trans ((List.map_congr_left fun d hd => (hexDigitChar_facts up d (hexDigits_lt16 n d hd)).2).trans (List.map_id _))
  rw [hexText, List.cons_append, List.cons_append, List.nil_append,
    pyIntBase0_hex (by cases bigX <;> simp) (by simpa using hexDigits_ne_nil n) (hexChars up n), hval, parse_hexDigits]

theorem toNat_ofNat_valid (n : Nat) (h : n.isValidChar) : (Char.ofNat n).toNat = n := by
  simp [Char.ofNat, h, Char.ofNatAux]

theorem quoted_valid {dq : Bool} (v : Int) (h : (LimitSp.quoted dq).Legal v) : (Char.ofNat v.toNat).toNat = v.toNat ∧ (v.toNat : Int) = v := by
  obtain ⟨h1, h2, h3, _⟩ := h
  have hv : v.toNat.isValidChar := by unfold Nat.isValidChar; omega
  exact ⟨toNat_ofNat_valid _ hv, by omega⟩

theorem codeForString_quoted (dq : Bool) (v : Int) (h : (LimitSp.quoted dq).Legal v) :
    codeForString [quoteChar dq, Char.ofNat v.toNat, quoteChar dq] = .ok v := by
  obtain ⟨h1, h2⟩ := quoted_valid v h
  simp [codeForString, quoteChar, h1, h2]

theorem unicodeEscape_escapedHex {a b : Char} (ha : isHexDigit a = true) (hb : isHexDigit b = true) (fuel : Nat) :
    unicodeEscape (fuel + 2) ['\\', 'x', a, b] = .ok [Char.ofNat (hexVal a * 16 + hexVal b)] := by
  rw [unicodeEscape]
  simp [takeHex, ha, hb, isOctDigit, unicodeEscape, Except.map]

theorem codeForString_escapedHex (dq : Bool) {a b : Char} (ha : isHexDigit a = true) (hb : isHexDigit b = true) :
    codeForString [quoteChar dq, '\\', 'x', a, b, quoteChar dq] = .ok (Char.ofNat (hexVal a * 16 + hexVal b)).toNat := by
  cases dq <;> simp [codeForString, quoteChar, unicodeEscape_escapedHex ha hb]

theorem symText_table (caps : Bool) (v : Int) (h : (LimitSp.sym caps).Legal v) :
    codeForSymbolic (symText caps v) = .ok v ∧ 2 ≤ (symText caps v).length ∧ ∀ x ∈ symText caps v, isAsciiLetter x = true := by
  obtain ⟨h1, h2⟩ := h
  have : v = 9 ∨ v = 10 ∨ v = 11 ∨ v = 12 ∨ v = 13 := by omega
  rcases this with rfl | rfl | rfl | rfl | rfl <;> cases caps <;> exact ⟨rfl, by decide, by decide⟩

/-- what the item loop does with a limit value `v` -/
def assignLimit (r : Regs) (v : Int) (rest : List Tok) : Out (Regs × Tok × List Tok) :=
  if r.ell then
    if r.upper.isNone then itemLoop { r with upper := some v, hyph := false } rest else .error .iface
  else if r.lower.isNone then itemLoop { r with lower := some v, hyph := false } rest
  else .error .iface

theorem itemLoop_number (r : Regs) (txt : Str) (n : Nat) (hcode : pyIntBase0 txt = some n) (rest : List Tok) :
    itemLoop r (⟨.number, txt⟩ :: rest) = assignLimit r (if r.hyph then -(n : Int) else n) rest := by
  rw [itemLoop]
  simp [Tok.isEof, Tok.isComma, codeForNumber, hcode, Except.map, assignLimit]

theorem itemLoop_minus (r : Regs) (hh : r.hyph = false) (rest : List Tok) :
    itemLoop r (minusTok :: rest) = itemLoop { r with hyph := true } rest := by
  rw [itemLoop]
  simp [Tok.isEof, Tok.isComma, minusTok, hh]

theorem itemLoop_colon (r : Regs) (hh : r.hyph = false) (rest : List Tok) :
    itemLoop r (colonTok :: rest) = itemLoop { r with ell := true } rest := by
  rw [itemLoop]
  simp [Tok.isEof, Tok.isComma, colonTok, hh]

theorem itemLoop_end (r : Regs) (t : Tok) (ht : (t.isEof || t.isComma) = true) (rest : List Tok) :
    itemLoop r (t :: rest) = .ok (r, t, rest) := by
  rw [itemLoop]; simp [ht]

theorem itemLoop_signed_number (r : Regs) (hh : r.hyph = false) (v : Int) (txt : Str)
    (hcode : pyIntBase0 txt = some v.natAbs) (rest : List Tok) :
    itemLoop r (signToks v ++ ⟨.number, txt⟩ :: rest) = assignLimit r v rest := by
  unfold signToks
  by_cases hv : v < 0
  · have : -(v.natAbs : Int) = v := by omega
    simp [hv, itemLoop_minus r hh, itemLoop_number _ txt _ hcode, this, assignLimit]
  · have : (v.natAbs : Int) = v := by omega
    simp [hv, itemLoop_number _ txt _ hcode, hh, this]

theorem itemLoop_limit (sp : LimitSp) (v : Int) (hl : sp.Legal v) (hc : sp.Convertible v) (r : Regs) (hh : r.hyph = false)
    (rest : List Tok) : itemLoop r (limitToks sp v ++ rest) = assignLimit r v rest := by
  cases sp with
  | dec =>
    simp only [limitToks, List.append_assoc, List.singleton_append]
    exact itemLoop_signed_number r hh v _ (pyIntBase0_natRepr _ hc) rest
  | hex bigX up =>
    simp only [limitToks, List.append_assoc, List.singleton_append]
    exact itemLoop_signed_number r hh v _ (pyIntBase0_hexText bigX up _) rest
  | quoted dq =>
    simp only [limitToks, List.singleton_append]
    rw [itemLoop]
    simp [Tok.isEof, Tok.isComma, codeForString_quoted dq v hl, Except.map, assignLimit, hh]
  | sym caps =>
    simp only [limitToks, List.singleton_append]
    rw [itemLoop]
    simp [Tok.isEof, Tok.isComma, (symText_table caps v hl).1, Except.map, assignLimit, hh]

def regsOf : ItemD → Regs
  | .single v => { lower := some v }
  | .closed l u => { lower := some l, upper := some u, ell := true }
  | .from_ l => { lower := some l, ell := true }
  | .upto u => { upper := some u, ell := true }

theorem itemLoop_item (it : ItemD) (sp : ItemSp) (hl : sp.Legal it) (hc : sp.Convertible it) (term : Tok)
    (hterm : (term.isEof || term.isComma) = true) (rest : List Tok) :
    itemLoop {} (itemToks it sp ++ term :: rest) = .ok (regsOf it, term, rest) := by
  have hend := fun r => itemLoop_end r term hterm rest
  -- `itemLoop_limit` at the registers that occur (`assignLimit` evaluates): a lower limit is read into the empty
  -- registers, an upper limit after the colon and before `term`
  have lower {v : Int} (hl : sp.lo.Legal v) (hc : sp.lo.Convertible v) (ts : List Tok) :
      itemLoop {} (limitToks sp.lo v ++ ts) = itemLoop { lower := some v } ts :=
    itemLoop_limit sp.lo v hl hc {} rfl ts
  have upper (lo : Option Int) {v : Int} (hl : sp.hi.Legal v) (hc : sp.hi.Convertible v) :
      itemLoop { lower := lo, ell := true } (limitToks sp.hi v ++ term :: rest) =
        .ok ({ lower := lo, upper := some v, ell := true }, term, rest) :=
    (itemLoop_limit sp.hi v hl hc _ rfl _).trans (hend _)
  cases it with
  | single v =>
    simp only [itemToks]
    rw [lower hl hc, hend]; rfl
  | closed l u =>
    simp only [itemToks, List.append_assoc, List.cons_append]
    rw [lower hl.1 hc.1, itemLoop_colon _ rfl]; exact upper _ hl.2 hc.2
  | from_ l =>
    simp only [itemToks, List.append_assoc, List.cons_append, List.nil_append]
    rw [lower hl hc, itemLoop_colon _ rfl, hend]; rfl
  | upto u =>
    simp only [itemToks, List.cons_append]
    rw [itemLoop_colon _ rfl]; exact upper _ hl hc

theorem decideItem_regsOf (it : ItemD) (hw : it.WellFormed) : decideItem (regsOf it) = .ok (some it.denote) := by
  cases it with
  | closed l u =>
    have : ¬ l > u := by simp [ItemD.WellFormed] at hw; omega
    simp [decideItem, regsOf, ItemD.denote, ItemD.lo, ItemD.hi, this]
  | _ => simp [decideItem, regsOf, ItemD.denote, ItemD.lo, ItemD.hi]

/-- `_items_overlap` tests the end points of the second item: one that lay in the first would be a value of both -/
theorem itemsOverlap_false (a b : ItemD) (hb : b.WellFormed) (h : ¬ a.Overlaps b) :
    itemsOverlap a.denote b.denote = false := by
  have apart : ∀ o : Option Int, (∀ v, o = some v → b.Mem v) → a.denote.containsOpt o = false
    | none, _ => rfl
    | some v, hv => Bool.eq_false_iff.2 fun hc =>
      h (overlaps_of_common a b v ((contains_denote_iff a v).1 hc) (hv v rfl))
  show (a.denote.containsOpt b.lo || a.denote.containsOpt b.hi) = false
  rw [apart b.lo fun v e => mem_of_limit hb (.inl e), apart b.hi fun v e => mem_of_limit hb (.inr e)]
  rfl

theorem eofTok_isEof : eofTok.isEof = true := rfl
theorem commaTok_isEof : commaTok.isEof = false := rfl

/-- one round of the outer loop: an item that overlaps none of those before it joins them -/
theorem parseTokens_item (accD : RangeDesc) (it : ItemD) (sp : ItemSp) (hl : sp.Legal it) (hc : sp.Convertible it)
    (hwit : it.WellFormed) (hd : ∀ o ∈ accD, ¬ o.Overlaps it) (term : Tok)
    (hterm : (term.isEof || term.isComma) = true) (rest : List Tok) (fuel : Nat) :
    parseTokens (fuel + 1) (itemToks it sp ++ term :: rest) (denote accD) =
      if term.isEof then .ok (denote (accD ++ [it])) else parseTokens fuel rest (denote (accD ++ [it])) := by
  have hno : (denote accD).any (fun old => itemsOverlap old it.denote) = false := by
    simp only [denote, List.any_eq_false, List.mem_map]
    rintro _ ⟨o, ho, rfl⟩
    simp [itemsOverlap_false o it hwit (hd o ho)]
  rw [parseTokens, itemLoop_item it sp hl hc term hterm rest]
  simp only [decideItem_regsOf it hwit, addItem, hno, Bool.false_eq_true, if_false]
  simp [denote]

/-- **Token level.** The token stream of a well-formed description with legal spellings is parsed
into exactly the items the description denotes, appended to what was parsed before. -/
theorem parseTokens_desc (d : RangeDesc) : ∀ (sps : List ItemSp) (accD : RangeDesc) (fuel : Nat),
    d ≠ [] → LegalSpelling d sps → ConvertibleSpelling d sps → (∀ it ∈ d, it.WellFormed) → Disjoint (accD ++ d) →
    (bodyToks d sps).length < fuel →
    parseTokens fuel (bodyToks d sps ++ [eofTok]) (denote accD) = .ok (denote (accD ++ d)) := by
  induction d with
  | nil => intro _ _ _ h; exact absurd rfl h
  | cons it rest ih =>
    intro sps accD fuel _ hl hc hw hd hf
    have hround := parseTokens_item accD it (sps.headD {}) hl.1 hc.1 (hw it (by simp))
      (fun o ho => ((disjoint_append_iff _ _).1 hd).2.2 o ho it (by simp))
    obtain ⟨fuel, rfl⟩ : ∃ f, fuel = f + 1 := ⟨fuel - 1, by omega⟩
    cases rest with
    | nil => simpa [bodyToks, eofTok_isEof] using hround eofTok rfl [] fuel
    | cons it2 rest2 =>
      simp only [bodyToks, List.append_assoc, List.cons_append, List.length_append, List.length_cons] at hf ⊢
      rw [hround commaTok rfl, commaTok_isEof]
      simpa using ih sps.tail (accD ++ [it]) fuel (by simp) hl.2 hc.2 (fun o ho => hw o (by simp [ho])) (by simpa using hd) (by omega)

end Cutplace
