import Cutplace.Model.Cli
namespace Cutplace

/-- The loop over the data files in closed form: what matters is only whether some file is unreadable
and, if none is, whether some file is rejected (or an earlier failure is carried in). -/
theorem processFiles_eq (files : List FileVerdict) (allOk : Bool) :
    processFiles files allOk =
      if .unreadable ∈ files then 3 else if allOk = true ∧ .rejected ∉ files then 0 else 1 := by
  induction files generalizing allOk with
  | nil => simp [processFiles]
  | cons f fs ih => cases f <;> simp [processFiles, ih]

theorem cliMain_eq (usage : Bool) (cid : CidLoad) (files : List FileVerdict) :
    cliMain usage cid files =
      if usage then 2
      else match cid with
        | .rejected => 1
        | .unreadable => 3
        | .ok => if .unreadable ∈ files then 3 else if .rejected ∈ files then 1 else 0 := by
  cases cid <;> simp [cliMain, processFiles_eq]

/-- the exit code depends on the verdicts only through which of them occur: neither their order nor how often one
occurs matters -/
theorem cliMain_congr_mem (usage : Bool) (cid : CidLoad) {files files' : List FileVerdict}
    (h : ∀ f, f ∈ files ↔ f ∈ files') : cliMain usage cid files = cliMain usage cid files' := by
  simp only [cliMain_eq, h]

theorem all_accepted_iff (files : List FileVerdict) :
    (∀ f ∈ files, f = .accepted) ↔ .unreadable ∉ files ∧ .rejected ∉ files := by
  constructor
  · exact fun h => ⟨fun hu => (nomatch h _ hu), fun hr => (nomatch h _ hr)⟩
  · rintro ⟨hu, hr⟩ f hf
    cases f
    · rfl
    · exact absurd hf hr
    · exact absurd hf hu

end Cutplace
