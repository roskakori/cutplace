import Cutplace.Proofs.RangeTokens
/-
Lexer level of `Range.__init__`.  `Lexed s ts` says that the text `s` is a sequence of lexemes of
the range grammar - blanks, the operators `,` `:` `-`, numbers, names and quoted characters, a
number or name ending at a delimiter - and that `ts` are their tokens.  Each lexeme is one round
of `lexLoop`, so everything the tokenizer does with such a text follows by induction on `Lexed`.
-/

namespace Cutplace
open Cutplace.Spec

theorem Delim.blanks (k : Nat) (r : Str) (h : Delim r) : Delim (blanks k ++ r) := by
  cases k with
  | zero => simpa [Spec.blanks] using h
  | succ k => exact Delim.cons (.inl rfl) _

def isAlnum (c : Char) : Bool := isAsciiDigit c || isAsciiLetter c

/-- a character a number, a name or a quoted character starts with -/
def isWordStart (c : Char) : Bool := isAlnum c || c == '\'' || c == '"'

theorem isAlnum_of_hex {c : Char} (h : isHexDigit c = true) : isAlnum c = true := by
  have := isHexDigit_iff.1 h
  simp only [isAlnum, Bool.or_eq_true, isAsciiDigit_iff, isAsciiLetter_iff]
  omega

theorem isWordStart_not_space {c : Char} (h : isWordStart c = true) : isPySpace c = false := by
  simp only [isWordStart, isAlnum, Bool.or_eq_true, isAsciiDigit_iff, isAsciiLetter_iff, beq_iff_eq] at h
  apply not_isPySpace_of_toNat
  rcases h with (h | rfl) | rfl
  · omega
  · decide
  · decide

def NoBreak (s : Str) : Prop := ∀ c ∈ s, c ≠ '\n' ∧ c ≠ '\r' ∧ c ≠ '\x0c'

theorem NoBreak.append {a b : Str} (ha : NoBreak a) (hb : NoBreak b) : NoBreak (a ++ b) := by
  intro c hc
  rcases List.mem_append.mp hc with h | h
  · exact ha c h
  · exact hb c h

theorem NoBreak.nil : NoBreak [] := by intro c hc; simp at hc

theorem NoBreak.cons {c : Char} {s : Str} (hc : c ≠ '\n' ∧ c ≠ '\r' ∧ c ≠ '\x0c') (hs : NoBreak s) : NoBreak (c :: s) := by
  intro x hx
  rcases List.mem_cons.mp hx with rfl | h
  · exact hc
  · exact hs x h

theorem NoBreak.of_class {p : Char → Bool} (hp : p '\n' = false ∧ p '\r' = false ∧ p '\x0c' = false) {s : Str}
    (h : ∀ c ∈ s, p c = true) : NoBreak s :=
  fun c hc => ⟨ne_of_class (h c hc) hp.1, ne_of_class (h c hc) hp.2.1, ne_of_class (h c hc) hp.2.2⟩

/-- the text of a NUMBER, NAME or STRING token of the range grammar: a decimal or hexadecimal
literal, a word of letters, a quoted character written literally -/
inductive Word : TokKind → Str → Prop
  | dec {w : Str} : DecLit w → Word .number w
  | hex {x : Char} {ds : Str} : x = 'x' ∨ x = 'X' → ds ≠ [] → (∀ c ∈ ds, isHexDigit c = true) → Word .number ('0' :: x :: ds)
  | name {w : Str} : w ≠ [] → (∀ c ∈ w, isAsciiLetter c = true) → Word .name w
  | quoted (dq : Bool) {ch : Char} : ch ≠ '\\' → ch ≠ quoteChar dq → NoBreak [ch] →
      Word .string [quoteChar dq, ch, quoteChar dq]

theorem Word.shape {k : TokKind} {w : Str} (h : Word k w) :
    (w ≠ [] ∧ ∀ c ∈ w, isAlnum c = true) ∨
      ∃ dq ch, w = [quoteChar dq, ch, quoteChar dq] ∧ ch ≠ '\\' ∧ ch ≠ quoteChar dq ∧ NoBreak [ch] := by
  cases h with
  | dec hw => exact Or.inl ⟨hw.ne, fun c hc => by simp [isAlnum, hw.digits c hc]⟩
  | hex hx hne hds =>
    refine Or.inl ⟨by simp, fun c hc => ?_⟩
    rcases List.mem_cons.mp hc with rfl | hc
    · decide
    · rcases List.mem_cons.mp hc with rfl | hc
      · rcases hx with rfl | rfl <;> decide
      · exact isAlnum_of_hex (hds c hc)
  | name hne hw => exact Or.inl ⟨hne, fun c hc => by simp [isAlnum, hw c hc]⟩
  | quoted dq h1 h2 h3 => exact Or.inr ⟨dq, _, rfl, h1, h2, h3⟩

theorem Word.head {k : TokKind} {w : Str} (h : Word k w) : ∃ c cs, w = c :: cs ∧ isWordStart c = true := by
  rcases h.shape with ⟨hne, hw⟩ | ⟨dq, ch, rfl, _⟩
  · obtain ⟨c, cs, rfl⟩ := List.exists_cons_of_ne_nil hne
    exact ⟨c, cs, rfl, by simp [isWordStart, hw c (by simp)]⟩
  · exact ⟨_, _, rfl, by cases dq <;> decide⟩

theorem Word.noBreak {k : TokKind} {w : Str} (h : Word k w) : NoBreak w := by
  rcases h.shape with ⟨_, hw⟩ | ⟨dq, ch, rfl, _, _, hb⟩
  · exact NoBreak.of_class (by decide) hw
  · have hq : NoBreak [quoteChar dq] := by cases dq <;> exact NoBreak.nil.cons (by decide)
    exact hq.append (hb.append hq)

/-- one round of the main loop reads a word that ends at a delimiter -/
theorem Word.lex {k : TokKind} {w s : Str} (h : Word k w) (hd : Delim s) (f : Nat) (acc : List Tok) :
    lexLoop (f + 1) (w ++ s) 0 acc = lexLoop f s 0 (⟨k, w⟩ :: acc) := by
  cases h with
  | dec hw =>
    have hlex := lexNumber_dec hw hd
    obtain ⟨c, cs, rfl⟩ := List.exists_cons_of_ne_nil hw.ne
    exact lexLoop_number (hw.digits c (by simp)) hlex (by simp) f 0 acc
  | hex hx hne hds => exact lexLoop_number (by decide) (lexNumber_hex hx hne hds hd) (by simp; omega) f 0 acc
  | name hne hw =>
    have hspan := spanChars_append isIdChar w s (fun c hc => by simp [isIdChar, isIdStart, hw c hc]) (hd.head (by decide))
    obtain ⟨c, cs, rfl⟩ := List.exists_cons_of_ne_nil hne
    exact lexLoop_name (hw c (by simp)) hspan (hd.head (by decide)) (by simp) f 0 acc
  | quoted dq h1 h2 _ =>
    have hq : quoteChar dq ≠ '\\' := by cases dq <;> decide
    exact lexLoop_string (by cases dq <;> simp [quoteChar]) (by simp [startsWith, h2])
      (lexStringBody_char _ _ s hq h1 h2) (by simp; omega) f 0 acc

inductive Lexed : Str → List Tok → Prop
  | nil : Lexed [] []
  | blank {s : Str} {ts : List Tok} : Lexed s ts → Lexed (' ' :: s) ts
  | op {c : Char} {s : Str} {ts : List Tok} : c ∈ [',', ':', '-'] → Lexed s ts → Lexed (c :: s) (⟨.op, [c]⟩ :: ts)
  | word {k : TokKind} {w s : Str} {ts : List Tok} : Word k w → Delim s → Lexed s ts → Lexed (w ++ s) (⟨k, w⟩ :: ts)

theorem Lexed.blanks {s : Str} {ts : List Tok} (k : Nat) (h : Lexed s ts) : Lexed (Spec.blanks k ++ s) ts := by
  induction k with
  | zero => exact h
  | succ k ih => simpa [Spec.blanks, List.replicate_succ] using ih.blank

theorem Lexed.nil_of_blank {s : Str} {ts : List Tok} (h : Lexed s ts) (hs : s.all isPySpace = true) : ts = [] := by
  induction h with
  | nil => rfl
  | blank _ ih => exact ih (by simp_all)
  | op hc _ =>
    have : ∀ c ∈ [',', ':', '-'], isPySpace c = false := by decide
    simp [this _ hc] at hs
  | word hw _ _ =>
    obtain ⟨c, cs, rfl, hc⟩ := hw.head
    simp [isWordStart_not_space hc] at hs

/-- no lexeme starts with `=` or `>`, so a colon or minus sign before it stays an operator of its own -/
theorem Lexed.noEq {s : Str} {ts : List Tok} (h : Lexed s ts) : NoEq s := by
  intro c r e
  cases h with
  | nil => cases e
  | blank _ => cases e; decide
  | op hc _ => cases e; exact (by decide : ∀ c ∈ [',', ':', '-'], c ≠ '=' ∧ c ≠ '>') _ hc
  | word hw _ _ =>
    obtain ⟨c', cs, rfl, hc'⟩ := hw.head
    cases e
    exact ⟨ne_of_class hc' (by decide), ne_of_class hc' (by decide)⟩

theorem Lexed.noBreak {s : Str} {ts : List Tok} (h : Lexed s ts) : NoBreak s := by
  induction h with
  | nil => exact NoBreak.nil
  | blank _ ih => exact ih.cons (by decide)
  | op hc _ ih => exact ih.cons ((by decide : ∀ c ∈ [',', ':', '-'], c ≠ '\n' ∧ c ≠ '\r' ∧ c ≠ '\x0c') _ hc)
  | word hw _ _ ih => exact hw.noBreak.append ih

theorem Lexed.run {s : Str} {ts : List Tok} (h : Lexed s ts) : ∀ (fuel : Nat) (acc : List Tok), s.length < fuel →
    lexLoop fuel s 0 acc = .ok (acc.reverse ++ ts ++ [eofTok]) := by
  induction h with
  | nil => intro fuel acc hf; obtain ⟨f, rfl⟩ : ∃ f, fuel = f + 1 := ⟨fuel - 1, by omega⟩; simp [lexLoop, eofTok]
  | blank _ ih =>
    intro fuel acc hf
    obtain ⟨f, rfl⟩ : ∃ f, fuel = f + 1 := ⟨fuel - 1, by omega⟩
    rw [lexLoop_blank]
    exact ih f acc (by simpa using hf)
  | op hc h ih =>
    intro fuel acc hf
    obtain ⟨f, rfl⟩ : ∃ f, fuel = f + 1 := ⟨fuel - 1, by omega⟩
    rw [lexLoop_op1 hc h.noEq]
    simpa using ih f (_ :: acc) (by simpa using hf)
  | @word k w s ts hw hd _ ih =>
    intro fuel acc hf
    obtain ⟨f, rfl⟩ : ∃ f, fuel = f + 1 := ⟨fuel - 1, by omega⟩
    have hne : 0 < w.length := by obtain ⟨c, cs, rfl, _⟩ := hw.head; simp
    rw [hw.lex hd]
    simpa using ih f (_ :: acc) (by simp at hf; omega)

theorem Lexed.lexAll {s : Str} {ts : List Tok} (h : Lexed s ts) : lexAll s = .ok (ts ++ [eofTok]) := by
  have hnb : s.any (fun c => c == '\n' || c == '\r' || c == '\x0c') = false := by
    simp only [List.any_eq_false]
    intro c hc
    obtain ⟨h1, h2, h3⟩ := h.noBreak c hc
    simp [h1, h2, h3]
  simpa [Cutplace.lexAll, hnb] using h.run (s.length + 1) [] (by omega)

/-- `tokenize_without_space` keeps a token whose text starts with a character that is not white space -/
theorem keep_of_head (k : TokKind) (c : Char) (cs : Str) (hc : isPySpace c = false) :
    (k == .endmarker || !(strip (c :: cs)).isEmpty) = true := by
  simp [isEmpty_strip, hc]

theorem Lexed.kept {s : Str} {ts : List Tok} (h : Lexed s ts) :
    ∀ t ∈ ts, (t.kind == .endmarker || !(strip t.text).isEmpty) = true := by
  induction h with
  | nil => intro t ht; simp at ht
  | blank _ ih => exact ih
  | op hc _ ih =>
    intro t ht
    rcases List.mem_cons.mp ht with rfl | ht
    · exact keep_of_head _ _ _ ((by decide : ∀ c ∈ [',', ':', '-'], isPySpace c = false) _ hc)
    · exact ih t ht
  | word hw _ _ ih =>
    intro t ht
    rcases List.mem_cons.mp ht with rfl | ht
    · obtain ⟨c, cs, rfl, hc⟩ := hw.head
      exact keep_of_head _ _ _ (isWordStart_not_space hc)
    · exact ih t ht

/-- **Lexer level.** A lexeme sequence is tokenised into its tokens. -/
theorem Lexed.tokenize {s : Str} {ts : List Tok} (h : Lexed s ts) : tokenizeWithoutSpace s = .ok (ts ++ [eofTok]) := by
  simp [tokenizeWithoutSpace, h.lexAll, List.filter_eq_self.mpr h.kept, eofTok]

end Cutplace
