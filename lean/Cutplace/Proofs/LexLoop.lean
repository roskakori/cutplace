import Cutplace.Model.PyTok
import Cutplace.Proofs.CharLemmas
import Cutplace.Proofs.Outcome
/-
What the functions of the tokenizer model do on input of a given form: the scanners on a run of
accepted characters, the number lexer on integer literals, and one round of `lexLoop` per kind of
token.  On any input the number lexer splits it into the text of the token and the rest (`Splits`).
-/
namespace Cutplace

/-- what may follow a number or a name: nothing, a blank, a comma or a colon -/
def Delim (rest : Str) : Prop := ∀ c r, rest = c :: r → c = ' ' ∨ c = ',' ∨ c = ':'

theorem Delim.nil : Delim [] := by intro c r h; cases h
theorem Delim.cons {c : Char} (hc : c = ' ' ∨ c = ',' ∨ c = ':') (r : Str) : Delim (c :: r) :=
  fun _ _ e => (List.cons.inj e).1 ▸ hc

theorem Delim.head {rest : Str} (hd : Delim rest) {P : Char → Prop} (hp : P ' ' ∧ P ',' ∧ P ':')
    (c : Char) (r : Str) (h : rest = c :: r) : P c := by
  rcases hd c r h with rfl | rfl | rfl
  · exact hp.1
  · exact hp.2.1
  · exact hp.2.2

theorem spanChars_append (p : Char → Bool) (xs rest : Str) (h : ∀ c ∈ xs, p c = true)
    (hr : ∀ c r, rest = c :: r → p c = false) : spanChars p (xs ++ rest) = (xs, rest) := by
  induction xs with
  | nil =>
    cases rest with
    | nil => rfl
    | cons c r => simp [spanChars, hr c r rfl]
  | cons x xs ih => simp [spanChars, h x (by simp), ih (fun c hc => h c (by simp [hc]))]

theorem digitPart_go_cons (ok : Char → Bool) (d : Char) (rest acc : Str) (hd : d ≠ '_') :
    digitPart.go ok (d :: rest) acc = if ok d then digitPart.go ok rest (d :: acc) else (acc.reverse, d :: rest) :=
  digitPart.go.eq_3 ok acc d rest (fun _ _ h _ => hd h)

theorem digitPart_go_append (ok : Char → Bool) (hu : ok '_' = false) (xs rest : Str) (h : ∀ c ∈ xs, ok c = true)
    (hr : ∀ c r, rest = c :: r → ok c = false ∧ c ≠ '_') (acc : Str) :
    digitPart.go ok (xs ++ rest) acc = (acc.reverse ++ xs, rest) := by
  induction xs generalizing acc with
  | nil =>
    cases rest with
    | nil => simp [digitPart.go]
    | cons c r =>
      have := hr c r rfl
      simp [digitPart_go_cons ok c r acc this.2, this.1]
  | cons x xs ih =>
    have hx := h x (by simp)
    have hne : x ≠ '_' := by rintro rfl; rw [hu] at hx; cases hx
    simp [digitPart_go_cons ok x _ acc hne, hx, ih (fun c hc => h c (by simp [hc]))]

theorem digitPart_append (ok : Char → Bool) (hu : ok '_' = false) (xs rest : Str) (hne : xs ≠ []) (h : ∀ c ∈ xs, ok c = true)
    (hr : ∀ c r, rest = c :: r → ok c = false ∧ c ≠ '_') : digitPart ok (xs ++ rest) = (xs, rest) := by
  obtain ⟨x, xs, rfl⟩ := List.exists_cons_of_ne_nil hne
  simp [digitPart, h x (by simp), digitPart_go_append ok hu xs rest (fun c hc => h c (by simp [hc])) hr]

theorem digitPart_go_split (ok : Char → Bool) (rest acc : Str) :
    (digitPart.go ok rest acc).1 ++ (digitPart.go ok rest acc).2 = acc.reverse ++ rest := by
  fun_induction digitPart.go ok rest acc <;> simp_all

theorem digitPart_split (ok : Char → Bool) (s : Str) : (digitPart ok s).1 ++ (digitPart ok s).2 = s := by
  cases s with
  | nil => rfl
  | cons c cs => rw [digitPart]; split <;> simp [digitPart_go_split]

/-- a decimal integer literal as `str` writes it: digits, no leading zero -/
structure DecLit (w : Str) : Prop where
  ne : w ≠ []
  digits : ∀ c ∈ w, isAsciiDigit c = true
  lead : ∀ c r, w ≠ '0' :: c :: r

/-- the second character of a decimal literal and what follows it is a digit or a delimiter (so not a base prefix) -/
theorem DecLit.second {w s : Str} (hw : DecLit w) (hd : Delim s) {c x : Char} {r : Str} (h : w ++ s = c :: x :: r) :
    isAsciiDigit x = true ∨ x = ' ' ∨ x = ',' ∨ x = ':' := by
  obtain ⟨c', cs, rfl⟩ := List.exists_cons_of_ne_nil hw.ne
  cases cs with
  | nil =>
    have : c' = c ∧ s = x :: r := by simpa using h
    exact Or.inr (hd x r this.2)
  | cons y ys =>
    obtain ⟨_, rfl, _⟩ : c' = c ∧ y = x ∧ ys ++ s = r := by simpa using h
    exact Or.inl (hw.digits y (by simp))

theorem lexFraction_delim {s : Str} (hd : Delim s) : lexFraction s = ([], s, false) := by
  unfold lexFraction
  split
  · exact absurd (hd _ _ rfl) (by decide)
  · rfl

theorem lexExponent_delim {s : Str} (hd : Delim s) : lexExponent s = .ok ([], s, false) := by
  cases s with
  | nil => rfl
  | cons c r => simp [lexExponent, hd.head (P := fun c => (c == 'e' || c == 'E') = false) (by decide) c r rfl]

theorem lexNumberTail_delim {s : Str} (hd : Delim s) : lexNumberTail s = .ok ([], s) := by
  cases s with
  | nil => rfl
  | cons c r =>
    simp [lexNumberTail, hd.head (P := fun c => (c == 'j' || c == 'J') = false) (by decide) c r rfl,
      hd.head (P := fun c => isIdChar c = false) (by decide) c r rfl]

theorem lexNumber_dec {w s : Str} (hw : DecLit w) (hd : Delim s) : lexNumber (w ++ s) = .ok (w, s) := by
  have hdec : lexNumber (w ++ s) = lexDecimal (w ++ s) := by
    unfold lexNumber
    split <;> first | rfl | (rename_i heq; exact absurd (hw.second hd heq) (by decide))
  have hint : lexIntPart (w ++ s) = (w, s) := by
    unfold lexIntPart
    split
    · rename_i r heq
      obtain ⟨c, cs, rfl⟩ := List.exists_cons_of_ne_nil hw.ne
      cases heq
      exact absurd (hw.digits '.' (by simp)) (by decide)
    · exact digitPart_append _ (by decide) w s hw.ne hw.digits (hd.head (by decide))
  have hbz : badLeadingZero w = false := by
    unfold badLeadingZero
    split
    · exact absurd rfl (hw.lead _ _)
    · rfl
  simp [hdec, lexDecimal, hint, lexFraction_delim hd, lexExponent_delim hd, lexNumberTail_delim hd, hbz]

theorem lexBased_append (pre : Str) (ok : Char → Bool) (hu : ok '_' = false) (ds s : Str) (hne : ds ≠ [])
    (h : ∀ c ∈ ds, ok c = true) (hok : ok ' ' = false ∧ ok ',' = false ∧ ok ':' = false) (hd : Delim s) :
    lexBased pre ok (ds ++ s) = .ok (pre ++ ds, s) := by
  have hpart := digitPart_append ok hu ds s hne h (hd.head (by simp [hok]))
  obtain ⟨c, cs, rfl⟩ := List.exists_cons_of_ne_nil hne
  have hc : c ≠ '_' := ne_of_class (h c (by simp)) hu
  unfold lexBased
  simp only []
  split
  · rename_i x heq; cases heq; exact absurd rfl hc
  · simp only [hpart]
    cases s with
    | nil => simp
    | cons d r => simp [hd.head (P := fun c => isIdChar c = false) (by decide) d r rfl]

theorem lexNumber_hex {x : Char} (hx : x = 'x' ∨ x = 'X') {ds s : Str} (hne : ds ≠ []) (h : ∀ c ∈ ds, isHexDigit c = true)
    (hd : Delim s) : lexNumber ('0' :: x :: ds ++ s) = .ok ('0' :: x :: ds, s) := by
  rcases hx with rfl | rfl <;> exact lexBased_append _ isHexDigit (by decide) ds s hne h (by decide) hd

/-- if the scanner succeeds, the text it read and the rest make up its input `s` -/
abbrev Splits (s : Str) (o : Except LexErr (Str × Str)) : Prop := Ends (fun _ => True) (fun p => p.1 ++ p.2 = s) o

theorem lexBased_split (pre : Str) (ok : Char → Bool) (r : Str) : Splits (pre ++ r) (lexBased pre ok r) := by
  unfold lexBased
  simp only []
  -- with an underscore or without: digits, then a look at the next character
  split <;> refine .ite (.error trivial) ?_ <;> split <;> first
    | exact .ite (.error trivial) (.ok (by simp [digitPart_split]))
    | exact .ok (by simp [digitPart_split])

theorem lexIntPart_split (s : Str) : (lexIntPart s).1 ++ (lexIntPart s).2 = s := by
  unfold lexIntPart
  split
  · rfl
  · exact digitPart_split _ s

theorem lexFraction_split (s : Str) : (lexFraction s).1 ++ (lexFraction s).2.1 = s := by
  unfold lexFraction
  split
  · simp [digitPart_split]
  · rfl

theorem lexExponent_split (s : Str) : Ends (fun _ => True) (fun p => p.1 ++ p.2.1 = s) (lexExponent s) := by
  unfold lexExponent
  split
  · refine .ite ?_ (.ok rfl)
    simp only []
    split <;> exact .ite (.error trivial) (.ok (by simp [digitPart_split]))
  · exact .ok rfl

theorem lexNumberTail_split (s : Str) : Splits s (lexNumberTail s) := by
  unfold lexNumberTail
  split
  · refine .ite ?_ (.ite (.error trivial) (.ok rfl))
    split
    · exact .ite (.error trivial) (.ok rfl)
    · exact .ok rfl
  · exact .ok rfl

theorem lexDecimal_split (s : Str) : Splits s (lexDecimal s) := by
  have h1 := lexIntPart_split s
  have h2 := lexFraction_split (lexIntPart s).2
  unfold lexDecimal
  simp only []
  refine (lexExponent_split _).elim (fun _ _ => .error trivial) fun (ep, r3, _) h3 => ?_
  dsimp only
  refine (lexNumberTail_split r3).elim (fun _ _ => .error trivial) fun (jp, r4) h4 => .ite (.error trivial) (.ok ?_)
  simp only [List.append_assoc, h4, h3, h2, h1]

theorem lexNumber_split (s : Str) : Splits s (lexNumber s) := by
  unfold lexNumber
  split <;> first | exact lexBased_split _ _ _ | exact lexDecimal_split s

theorem lexStringBody_cons (q c : Char) (rest : Str) (h : c ≠ '\\') :
    lexStringBody q (c :: rest) =
      if c == q then .ok ([c], rest)
      else match lexStringBody q rest with
        | .ok (b, r) => .ok (c :: b, r)
        | .error e => .error e :=
  lexStringBody.eq_4 q c rest (fun e _ => h e) (fun _ _ e _ => h e)

theorem lexStringBody_escape (q c : Char) (rest : Str) :
    lexStringBody q ('\\' :: c :: rest) =
      match lexStringBody q rest with
      | .ok (b, r) => .ok ('\\' :: c :: b, r)
      | .error e => .error e :=
  lexStringBody.eq_3 q c rest

theorem lexStringBody_char (q ch : Char) (rest : Str) (hq : q ≠ '\\') (h1 : ch ≠ '\\') (h2 : ch ≠ q) :
    lexStringBody q (ch :: q :: rest) = .ok ([ch, q], rest) := by
  simp [lexStringBody_cons _ _ _ h1, lexStringBody_cons _ _ _ hq, h2]

/-- what may follow a colon or a minus sign: anything but `=` and `>` -/
def NoEq (t : Str) : Prop := ∀ c r, t = c :: r → c ≠ '=' ∧ c ≠ '>'

theorem longer_ops : ∀ o ∈ ops3 ++ ops2, o ≠ [] ∧
    ∀ c ∈ [',', ':', '-'], o.head? = some c → o[1]? = some '=' ∨ o[1]? = some '>' := by decide +kernel

theorem matchOp_op1 {c : Char} (hc : c ∈ [',', ':', '-']) {s : Str} (h : NoEq s) : matchOp (c :: s) = none := by
  refine List.find?_eq_none.mpr fun o ho hsw => ?_
  obtain ⟨hne, hnext⟩ := longer_ops o ho
  match o, s with
  | [], _ => exact hne rfl
  | [a], _ =>
    have : c = a := by simpa [startsWith] using hsw
    simpa using hnext c hc (by simp [this])
  | a :: b :: t, [] => simp [startsWith] at hsw
  | a :: b :: t, d :: r =>
    obtain ⟨rfl, rfl, _⟩ : c = a ∧ d = b ∧ _ := by simpa [startsWith] using hsw
    have hd : d = '=' ∨ d = '>' := by simpa using hnext c hc rfl
    exact hd.elim (h d r rfl).1 (h d r rfl).2

theorem lexLoop_blank (f : Nat) (s : Str) (depth : Nat) (acc : List Tok) :
    lexLoop (f + 1) (' ' :: s) depth acc = lexLoop f s depth acc := rfl

theorem lexLoop_number {c : Char} {cs txt rest : Str} (hc : isAsciiDigit c = true) (hlex : lexNumber (c :: cs) = .ok (txt, rest))
    (hlen : rest.length ≤ cs.length) (f depth : Nat) (acc : List Tok) :
    lexLoop (f + 1) (c :: cs) depth acc = lexLoop f rest depth (⟨.number, txt⟩ :: acc) := by
  have h1 : c ≠ ' ' := ne_of_class hc (by decide)
  have h2 : c ≠ '\t' := ne_of_class hc (by decide)
  have h3 : c ≠ '#' := ne_of_class hc (by decide)
  have h4 : c ≠ '\\' := ne_of_class hc (by decide)
  have hlen' : ¬ cs.length + 1 ≤ rest.length := by omega
  rw [lexLoop.eq_def]
  simp [h1, h2, h3, h4, hc, hlex, hlen']

theorem lexLoop_name {c : Char} {cs w rest : Str} (hc : isAsciiLetter c = true) (hspan : spanChars isIdChar (c :: cs) = (w, rest))
    (hq : ∀ q r, rest = q :: r → q ≠ '\'' ∧ q ≠ '"') (hlen : rest.length ≤ cs.length) (f depth : Nat) (acc : List Tok) :
    lexLoop (f + 1) (c :: cs) depth acc = lexLoop f rest depth (⟨.name, w⟩ :: acc) := by
  have h1 : c ≠ ' ' := ne_of_class hc (by decide)
  have h2 : c ≠ '\t' := ne_of_class hc (by decide)
  have h3 : c ≠ '#' := ne_of_class hc (by decide)
  have h4 : c ≠ '\\' := ne_of_class hc (by decide)
  have h5 : c ≠ '.' := ne_of_class hc (by decide)
  have hid : isIdStart c = true := by simp [isIdStart, hc]
  rw [lexLoop.eq_def]
  cases rest with
  | nil => simp [h1, h2, h3, h4, h5, letter_not_digit hc, hid, hspan]
  | cons q r =>
    have hlen' : ¬ cs.length ≤ r.length := by simp at hlen; omega
    simp [h1, h2, h3, h4, h5, letter_not_digit hc, hid, hspan, hlen', hq q r rfl]

theorem lexLoop_string {c : Char} {cs b rest : Str} (hc : c = '\'' ∨ c = '"') (hsw : startsWith cs [c, c] = false)
    (hbody : lexStringBody c cs = .ok (b, rest)) (hlen : rest.length ≤ cs.length) (f depth : Nat) (acc : List Tok) :
    lexLoop (f + 1) (c :: cs) depth acc = lexLoop f rest depth (⟨.string, c :: b⟩ :: acc) := by
  have hlen' : ¬ cs.length + 1 ≤ rest.length := by omega
  rw [lexLoop.eq_def]
  rcases hc with rfl | rfl <;> simp [isAsciiDigit, isIdStart, isAsciiLetter, hsw, hbody, hlen']

theorem lexLoop_op1 {c : Char} (hc : c ∈ [',', ':', '-']) {s : Str} (h : NoEq s) (f depth : Nat) (acc : List Tok) :
    lexLoop (f + 1) (c :: s) depth acc = lexLoop f s depth (⟨.op, [c]⟩ :: acc) := by
  -- the loop's tests before and after `matchOp` come out the same for the three characters
  -- (`ops1` is a string literal and dear to evaluate, hence by the kernel only)
  have hcls : ∀ c ∈ [',', ':', '-'], c ∉ [' ', '\t', '#', '\\', '.', '\'', '"', '(', '[', '{', ')', ']', '}'] ∧
      isAsciiDigit c = false ∧ isIdStart c = false ∧ c ∈ ops1 := by decide +kernel
  have := hcls c hc
  simp only [List.mem_cons, List.not_mem_nil, or_false, not_or] at this
  rw [lexLoop.eq_def]
  simp [this, matchOp_op1 hc h]

end Cutplace
