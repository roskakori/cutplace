import Cutplace.Proofs.LexLoop
/-
What the tokenizer hands to the token loops of ranges, field rules and checks: a list with an end
marker in it, whose STRING tokens are not empty (they start with their quote) and whose NUMBER tokens start with a
digit or a point (`Tokenized`).
-/
namespace Cutplace

def NumHead (c : Char) : Prop := isAsciiDigit c = true ∨ c = '.'

/-- a point or a digit: code 46, or 48 to 57 -/
theorem NumHead.toNat {c : Char} (hc : NumHead c) : 46 ≤ c.toNat ∧ c.toNat ≤ 57 := by
  rcases hc with h | rfl
  · have := isAsciiDigit_iff.1 h; omega
  · decide

def HasEof (toks : List Tok) : Prop := ∃ t ∈ toks, t.isEof = true

theorem HasEof.nil : ¬HasEof [] := fun ⟨_, h, _⟩ => nomatch h

theorem HasEof.cons {t : Tok} {ts : List Tok} : HasEof (t :: ts) ↔ t.isEof = true ∨ HasEof ts := by
  simp [HasEof]

theorem HasEof.tail {t : Tok} {ts : List Tok} (h : HasEof (t :: ts)) (he : ¬t.isEof = true) : HasEof ts :=
  (HasEof.cons.1 h).resolve_left he

/-- how the token loops use the end marker: there is a first token, and as long as it is not the end
marker, an end marker is still ahead (`HasEof.tail`), so that `next()` never raises `StopIteration` -/
@[elab_as_elim]
theorem HasEof.elim {motive : List Tok → Prop} {toks : List Tok} (h : HasEof toks)
    (cons : ∀ t ts, HasEof (t :: ts) → motive (t :: ts)) : motive toks := by
  cases toks with
  | nil => exact absurd h HasEof.nil
  | cons t ts => exact cons t ts h

def Tok.Emitted (t : Tok) : Prop :=
  match t.kind with
  | .string => t.text ≠ []
  | .number => ∃ c r, t.text = c :: r ∧ NumHead c
  | _ => True

theorem Tok.Emitted.string {t : Tok} (h : t.Emitted) (hk : t.kind = .string) : t.text ≠ [] := by
  simpa only [Tok.Emitted, hk] using h

theorem Tok.Emitted.number {t : Tok} (h : t.Emitted) (hk : t.kind = .number) : ∃ c r, t.text = c :: r ∧ NumHead c := by
  simpa only [Tok.Emitted, hk] using h

/-- a token list as the tokenizer hands it over, or what is left of one while its end marker is ahead -/
def Tokenized (toks : List Tok) : Prop := HasEof toks ∧ ∀ t ∈ toks, t.Emitted

theorem Tokenized.cons {t : Tok} {ts : List Tok} (h : Tokenized (t :: ts)) : t.Emitted ∧ (¬t.isEof = true → Tokenized ts) :=
  have ⟨ht, hts⟩ := List.forall_mem_cons.1 h.2
  ⟨ht, fun he => ⟨h.1.tail he, hts⟩⟩

theorem numHead_of_cond {c : Char} {b : Bool} (h : (isAsciiDigit c || (c == '.' && b)) = true) : NumHead c := by
  simp only [Bool.or_eq_true, Bool.and_eq_true, beq_iff_eq] at h
  exact h.imp id And.left

/-- The proof follows the branches of `lexLoop` in the order of the source: each either fails, ends the list
with the end marker, or goes round again with the same tokens or one more. -/
theorem lexLoop_tokenized : ∀ (fuel : Nat) (s : Str) (depth : Nat) (acc : List Tok), (∀ t ∈ acc, t.Emitted) →
    Ends (fun _ => True) Tokenized (lexLoop fuel s depth acc) := by
  intro fuel
  induction fuel with
  | zero => intro _ _ _ _; exact .error trivial
  | succ fuel ih =>
    intro s depth acc hacc
    have stop : ∀ last : List Tok, (∀ t ∈ last, t.Emitted) → Tokenized (acc.reverse ++ (last ++ [⟨.endmarker, []⟩])) := by
      intro last hlast
      refine ⟨⟨⟨.endmarker, []⟩, by simp, rfl⟩, fun t ht => ?_⟩
      simp only [List.mem_append, List.mem_reverse, List.mem_singleton] at ht
      rcases ht with ht | ht | rfl
      · exact hacc t ht
      · exact hlast t ht
      · trivial
    have push : ∀ {t : Tok} (rest : Str) (d : Nat), t.Emitted → Ends (fun _ => True) Tokenized (lexLoop fuel rest d (t :: acc)) :=
      fun _ _ ht => ih _ _ _ (List.forall_mem_cons.2 ⟨ht, hacc⟩)
    rw [lexLoop.eq_def]
    cases s with
    | nil => exact .ite (.error trivial) (.ok (stop [] fun _ => nofun))
    | cons c cs =>
      -- blank, comment, backslash
      refine .ite (ih _ _ _ hacc) ?_
      refine .ite (.ite (.error trivial) (.ok (stop [_] (by simp [Tok.Emitted])))) ?_
      refine .ite (.error trivial) ?_
      -- number
      refine .by_cases (fun hnum => ?_) fun _ => ?_
      · refine (lexNumber_split (c :: cs)).elim (fun _ _ => .error trivial) fun (txt, rest) hsplit => ?_
        refine .by_cases (fun hlen => push _ _ ?_) fun _ => .error trivial
        -- the rest is shorter than the input, so the text of the token is not empty: it starts with `c`
        cases txt with
        | nil => rw [← hsplit] at hlen; exact absurd hlen (Nat.lt_irrefl _)
        | cons x t => exact ⟨c, t, by rw [(List.cons.inj hsplit).1], numHead_of_cond hnum⟩
      -- name
      refine .ite ?_ ?_
      · cases spanChars isIdChar (c :: cs) with
        | mk w rest => exact .ite (.error trivial) (.ite (push _ _ trivial) (.error trivial))
      -- string
      refine .ite (.ite (.error trivial) ?_) ?_
      · cases lexStringBody c cs with
        | error e => exact .error trivial
        | ok p => exact .ite (push _ _ (List.cons_ne_nil _ _)) (.error trivial)
      -- operator
      cases matchOp (c :: cs) with
      | some o => exact push _ _ trivial
      | none =>
        refine .ite ?_ (.error trivial)
        refine .ite (push _ _ trivial) ?_
        exact .ite (.ite (.error trivial) (push _ _ trivial)) (push _ _ trivial)

theorem lexAll_tokenized (s : Str) : Ends (fun _ => True) Tokenized (lexAll s) :=
  .ite (.error trivial) (lexLoop_tokenized _ _ _ _ fun _ => nofun)

theorem tokenizeWithoutSpace_tokenized (s : Str) : Ends (fun _ => True) Tokenized (tokenizeWithoutSpace s) := by
  unfold tokenizeWithoutSpace
  refine (lexAll_tokenized s).elim (fun _ _ => .error trivial) fun ts ⟨⟨t, ht, he⟩, hts⟩ => .ok ⟨⟨t, ?_, he⟩, ?_⟩
  · exact List.mem_filter.2 ⟨ht, by simp [show t.kind = .endmarker by simpa [Tok.isEof] using he]⟩
  · exact fun x hx => hts x (List.mem_filter.1 hx).1

theorem generatedTokens_tokenized (s : Str) : Ends (fun _ => True) Tokenized (generatedTokens s) := by
  unfold generatedTokens
  refine (lexAll_tokenized s).elim (fun _ _ => .error trivial) fun ts hts => ?_
  cases spanChars (fun c => c == ' ' || c == '\t') s with
  | mk ws rest =>
    refine .ite (.ok hts) (.ok ⟨⟨⟨.endmarker, []⟩, by simp, rfl⟩, fun t ht => ?_⟩)
    simp only [List.mem_append, List.mem_cons, List.not_mem_nil, or_false] at ht
    rcases ht with (rfl | ht) | rfl | rfl | rfl
    · trivial
    · exact hts.2 t (List.dropLast_subset _ ht)
    all_goals trivial

theorem liftLex_ends {α : Type} {P : α → Prop} {r : Except LexErr α} (h : Ends (fun _ => True) P r) :
    Ends PyExn.Clean P (liftLex r) :=
  h.elim (fun e _ => by cases e; exact .error .iface; exact .error .unsupported) fun _ ha => .ok ha

end Cutplace
