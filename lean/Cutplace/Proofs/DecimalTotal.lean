import Cutplace.Proofs.LexTotal
import Cutplace.Proofs.DecRange
/-
`DecimalRange(description)` fails only with an interface error, and its limits are finite decimals: a
NUMBER token starts with a digit or a point, so `Decimal()` of it is no NaN and no infinity, so every
comparison of limits is defined.
-/
namespace Cutplace

theorem pyDecimal_fin (c : Char) (r : Str) (hc : NumHead c) (d : Dec) (h : pyDecimal (c :: r) = .ok d) : d.isFin = true := by
  -- with a code from 46 to 57, `c` is no white space, no underscore, no sign, no capital letter and none of `i`, `n`, `s`
  have hn := hc.toNat
  have ne : ∀ x : Char, x.toNat < 46 ∨ 57 < x.toNat → c ≠ x := fun x hx e => by subst e; omega
  have hlow : lowerChar c = c := if_neg (by simp [Char.le_def, UInt32.le_iff_toNat_le]; omega)
  obtain ⟨t', ht⟩ : ∃ t', stripUnderscores (strip (c :: r)) = c :: t' :=
    ⟨_, by rw [strip_cons (not_isPySpace_of_toNat (by omega)), stripUnderscores, List.filter_cons_of_pos (by simpa using ne '_' (by decide))]⟩
  revert h
  -- the ten ways `pyDecimal` ends: six failures, a `Dec.fin`, ...
  fun_cases pyDecimal (c :: r)
  case case1 | case4 | case6 | case7 | case8 | case9 => nofun
  case case10 => rintro ⟨⟩; rfl
  -- ... an infinity or a NaN: but the text `Decimal()` looks at starts with `c`, so it has no sign and spells no keyword
  case case2 _ t _ _ hs lb hk | case3 _ t _ _ hs lb _ hk _ | case5 _ t _ _ hs lb _ _ hk _ =>
    simp only [t, ht] at hs
    split at hs
    · rename_i heq; exact absurd (List.cons.inj heq).1 (ne '-' (by decide))
    · rename_i heq; exact absurd (List.cons.inj heq).1 (ne '+' (by decide))
    · cases hs
      simp [lb, lower, hlow, startsWith, ne 'i', ne 'n', ne 's'] at hk

def FinOpt (o : Option Dec) : Prop := ∀ d, o = some d → d.isFin = true

theorem FinOpt.none : FinOpt none := fun _ => nofun
theorem FinOpt.some {d : Dec} (h : d.isFin = true) : FinOpt (some d) := by intro d' h'; cases h'; exact h

structure DRegsOk (r : DRegs) : Prop where
  lower : FinOpt r.lower
  upper : FinOpt r.upper
  before : 0 ≤ r.maxBefore

theorem negate_fin (d : Dec) (h : d.isFin = true) : d.negate.isFin = true := by
  cases d <;> simp [Dec.isFin, Dec.negate] at h ⊢

/-- the item loop keeps the limits finite and the digits before the point counted from 0 up; while the token it
stops at is not the end marker, an end marker is still ahead -/
theorem dItemLoop_ends (toks : List Tok) : ∀ r : DRegs, DRegsOk r → Tokenized toks →
    Ends PyExn.Clean (fun (r, t, rest) => DRegsOk r ∧ (¬t.isEof = true → Tokenized rest)) (dItemLoop r toks) := by
  induction toks with
  | nil => intro _ _ h; exact absurd h.1 HasEof.nil
  | cons t ts ih =>
    intro r hr h
    obtain ⟨ht, hts⟩ := h.cons
    rw [dItemLoop]
    refine .by_cases (fun _ => .ok ⟨hr, hts⟩) fun hstop => ?_
    have next : ∀ r, DRegsOk r → Ends _ _ (dItemLoop r ts) := fun r hr => ih r hr (hts fun he => hstop (by simp [he]))
    refine .by_cases (fun hk => ?_) fun _ => .ite (.error .iface) <|
      .ite (next _ ⟨hr.lower, hr.upper, hr.before⟩) <| .ite (next _ ⟨hr.lower, hr.upper, hr.before⟩) (.error .iface)
    obtain ⟨c, r', htxt, hc⟩ := ht.number (by simpa using hk)
    cases hpd : pyDecimal t.text with
    | unsupported => exact .error .unsupported
    | invalid => exact .error .iface
    | ok d =>
      have hfin : d.isFin = true := pyDecimal_fin c r' hc d (htxt ▸ hpd)
      have hd' : (if r.hyph = true then d.negate else d).isFin = true := by
        split
        · exact negate_fin d hfin
        · exact hfin
      have hb : ∀ b : Int, 0 ≤ max r.maxBefore b := fun b => Int.le_trans hr.before (Int.le_max_left _ _)
      exact .ite (.ite (next _ ⟨hr.lower, .some hd', hb _⟩) (.error .iface))
        (.ite (next _ ⟨.some hd', hr.upper, hb _⟩) (.error .iface))

/-- one item's share of `AllFinite`, which unfolds to `∀ it ∈ its, DItemFin it` -/
def DItemFin (it : DItem) : Prop := FinOpt it.lo ∧ FinOpt it.hi

theorem contains?_some (it : DItem) (v : Dec) (hit : DItemFin it) (hv : v.isFin = true) : ∃ x, it.contains? v = some x := by
  obtain ⟨lo, hi⟩ := it
  unfold DItem.contains?
  rcases lo with _ | l <;> rcases hi with _ | u
  · exact ⟨_, rfl⟩
  · exact ⟨_, le?_of_isFin hv (hit.2 u rfl)⟩
  · exact ⟨_, le?_of_isFin (hit.1 l rfl) hv⟩
  · simp only [le?_of_isFin (hit.1 l rfl) hv]
    cases decide (l.toRat ≤ v.toRat)
    · exact ⟨_, rfl⟩
    · exact ⟨_, le?_of_isFin hv (hit.2 u rfl)⟩

theorem dItemsOverlap_some (a b : DItem) (ha : DItemFin a) (hb : DItemFin b) : ∃ x, dItemsOverlap a b = some x := by
  unfold dItemsOverlap
  extract_lets c
  have hc : ∀ v, FinOpt v → ∃ y, c v = some y := by
    intro v hv
    cases v with
    | none => exact ⟨_, rfl⟩
    | some d => exact contains?_some a d ha (hv d rfl)
  obtain ⟨x, hx⟩ := hc b.lo hb.1
  rw [hx]
  cases x
  · exact hc b.hi hb.2
  · exact ⟨_, rfl⟩

theorem dParseTokens_ends (fuel : Nat) : ∀ (toks : List Tok) (acc : List DItem) (prev : Option DItem) (ma : Nat) (mb : Int),
    Tokenized toks → AllFinite acc → 0 ≤ mb →
    Ends PyExn.Clean (fun (its, _, b) => 0 ≤ b ∧ AllFinite its) (dParseTokens fuel toks acc prev ma mb) := by
  induction fuel with
  | zero => intros; exact .error .unsupported
  | succ fuel ih =>
    intro toks acc prev ma mb h hacc hmb
    rw [dParseTokens]
    refine (dItemLoop_ends toks _ ⟨.none, .none, hmb⟩ h).elim (fun _ he => .error he) fun (r, last, rest) ⟨hr, hrest⟩ => ?_
    refine .ite (.error .iface) ?_
    extract_lets decided
    have hdec : Ends PyExn.Clean (fun o : Option DItem => ∀ it, o = some it → DItemFin it) decided := by
      have item : ∀ {lo hi : Option Dec}, FinOpt lo → FinOpt hi → ∀ it, some (DItem.mk lo hi) = some it → DItemFin it :=
        fun hlo hhi _ e => Option.some.inj e ▸ ⟨hlo, hhi⟩
      unfold decided
      cases hlo : r.lower with
      | none =>
        cases hup : r.upper with
        | none => exact .ite (.error .iface) (.ok fun _ => nofun)
        | some u => exact .ok (item .none (.some (hr.upper u hup)))
      | some l =>
        have hl := hr.lower l hlo
        refine .ite ?_ (.ok (item (.some hl) (.some hl)))
        cases hup : r.upper with
        | none => exact .ok (item (.some hl) .none)
        | some u =>
          have hu := hr.upper u hup
          simp only [le?_of_isFin hl hu]
          cases decide (l.toRat ≤ u.toRat)
          · exact .error .iface
          · exact .ok (item (.some hl) (.some hu))
    refine hdec.elim (fun _ he => .error he) fun newItem hitem => ?_
    have go : ∀ acc' prev', AllFinite acc' → Ends PyExn.Clean (fun (its, _, b) => 0 ≤ b ∧ AllFinite its)
        (if last.isEof = true then .ok (acc', r.maxAfter, r.maxBefore)
         else dParseTokens fuel rest acc' prev' r.maxAfter r.maxBefore) :=
      fun acc' prev' hacc' => .by_cases (fun _ => .ok ⟨hr.before, hacc'⟩) fun hl => ih _ _ _ _ _ (hrest hl) hacc' hr.before
    cases newItem with
    | none => exact go acc prev hacc
    | some it =>
      simp only []
      split
      · -- the overlap test is a fold that stops at the first overlap: as long as it has not stopped it compares finite limits
        refine (List.foldlRecOn (motive := (· ≠ none)) acc _ (Option.some_ne_none _) (fun o ho old hold => ?_) ‹_›).elim
        match o with
        | none => exact absurd rfl ho
        | some true => nofun
        | some false =>
          obtain ⟨y, hy⟩ := dItemsOverlap_some old it (hacc old hold) (hitem it rfl)
          exact hy ▸ nofun
      · exact .error .iface
      · exact go _ _ (List.forall_mem_append.2 ⟨hacc, List.forall_mem_singleton.2 (hitem it rfl)⟩)

def DecimalRange.Fin (r : DecimalRange) : Prop := ∀ its, r.items = some its → AllFinite its

theorem DecimalRange.parse_ends (description : Str) (default : Option Str) :
    Ends PyExn.Clean DecimalRange.Fin (DecimalRange.parse description default) := by
  unfold DecimalRange.parse
  simp only []
  split
  · exact .ok nofun
  · refine (liftLex_ends (tokenizeWithoutSpace_tokenized _)).elim (fun _ he => .error he) fun toks htoks => ?_
    simp only []
    refine (dParseTokens_ends _ toks [] none 0 0 htoks (fun _ h => nomatch h) (Int.le_refl 0)).elim (fun _ he => .error he)
      fun p hp => ?_
    -- `assert self.scale >= self.precision`
    exact .by_cases (fun h => absurd h (Int.not_lt.2 hp.1)) fun _ => .ok fun _ e => Option.some.inj e ▸ hp.2

/-- what `Tok.Emitted.number` says, of all NUMBER tokens of a list -/
def NumOk (toks : List Tok) : Prop := ∀ t ∈ toks, t.kind = .number → ∃ c r, t.text = c :: r ∧ NumHead c

/-- a variant of what `dItemLoop_ends` says of the item loop, with `HasEof` and `NumOk` for what `Tokenized` says of the rest -/
def DItemLoopOk (o : Out (DRegs × Tok × List Tok)) : Prop :=
  Clean o ∧ ∀ r t rest, o = .ok (r, t, rest) → DRegsOk r ∧ (t.isEof = true ∨ HasEof rest) ∧ NumOk rest

theorem DItemLoopOk.unsupported : DItemLoopOk (.error .unsupported) := ⟨Clean.unsupported, fun _ _ _ h => nomatch h⟩

/-- what `dParseTokens_ends` says of the outer loop -/
def DParseOk (o : Out (List DItem × Nat × Int)) : Prop :=
  Clean o ∧ ∀ its a b, o = .ok (its, a, b) → 0 ≤ b ∧ ∀ it ∈ its, DItemFin it

theorem DParseOk.unsupported : DParseOk (.error .unsupported) := ⟨Clean.unsupported, fun _ _ _ h => nomatch h⟩

theorem dValidateLoop_some (v : Dec) (hv : v.isFin = true) : ∀ its : List DItem, AllFinite its →
    ∃ x, dValidateLoop v its = some x := by
  intro its h
  fun_induction dValidateLoop v its with
  | case1 => exact ⟨false, rfl⟩
  | case2 it _ hc =>
    obtain ⟨x, hx⟩ := contains?_some it v (h it (by simp)) hv
    cases hc ▸ hx
  | case3 => exact ⟨true, rfl⟩
  | case4 _ _ _ ih => exact ih fun o ho => h o (by simp [ho])

/-- a finite value compared with a parsed decimal range never raises `InvalidOperation` -/
theorem DecimalRange.validate_some (r : DecimalRange) (hr : r.Fin) (v : Dec) (hv : v.isFin = true) : ∃ x, r.validate v = some x := by
  unfold DecimalRange.validate
  split
  · exact ⟨true, rfl⟩
  · rename_i its hits
    exact dValidateLoop_some v hv its (hr its hits)

end Cutplace
