import Cutplace.Proofs.DeclareTotal
import Cutplace.Model.Cid
/-
Every path of `Cid.read` ends in a CID whose fields cannot fail internally when they validate a value
(`Cid.WF`), in an `InterfaceError`, in the recorded `OverflowError`, or outside the modelled fragment.
-/
namespace Cutplace

theorem Clean.ite {α : Type} {c : Prop} [Decidable c] {a b : Out α} (ha : Clean a) (hb : Clean b) :
    Clean (if c then a else b) :=
  Ends.errors_iff.1 (.ite (Ends.errors_iff.2 ha) (Ends.errors_iff.2 hb))

theorem tokenCode_ends (t : Tok) (ht : t.Emitted) : Ends PyExn.Clean (0 ≤ ·) (tokenCode t) := by
  refine .ite (codeForSymbolic_ends _) <| .ite (codeForNumber_ends _) <|
    .by_cases (fun hk => codeForString_ends _ (ht.string (by simpa using hk))) fun _ => ?_
  split
  · exact .ok (Int.natCast_nonneg _)
  · exact .error .iface

theorem viaTokens_ends (value : Str) : Ends PyExn.Clean (0 ≤ ·) (validatedCharacterCode.viaTokens value) := by
  unfold validatedCharacterCode.viaTokens
  refine (generatedTokens_tokenized value).elim (fun e _ => ?_) fun toks h => ?_
  · cases e
    · exact .error .iface
    · exact .error .unsupported
  match toks, h with
  | [], h => exact absurd h.1 HasEof.nil
  | t :: rest, h =>
    refine .by_cases (fun _ => .error .iface) fun he => ?_
    refine (tokenCode_ends t h.cons.1).elim (fun _ he => .error he) fun c hc => ?_
    exact (h.1.tail he).elim fun t2 _ _ => .ite (.ok hc) (.error .iface)

theorem validatedCharacterCode_ends (value : Str) : Ends PyExn.Clean (0 ≤ ·) (validatedCharacterCode value) := by
  unfold validatedCharacterCode
  simp only []
  split
  · exact .ite (.ok (Int.natCast_nonneg _)) (viaTokens_ends _)
  · exact viaTokens_ends _

theorem validatedCharacter_ends (value : Str) : Ends PyExn.Clean (fun _ => True) (validatedCharacter value) := by
  unfold validatedCharacter
  refine (validatedCharacterCode_ends value).elim (fun _ he => .error he) fun c hc => ?_
  -- `chr()` of a negative number would be a `ValueError`
  exact .by_cases (fun h => absurd h (by omega)) fun _ => .ite (.error .iface) <| .ite (.error .unsupported) (.ok trivial)

theorem validatedIntAtLeast0_ends (value : Str) : Ends PyExn.Clean (fun _ => True) (validatedIntAtLeast0 value) := by
  refine .ite (.error .unsupported) ?_
  split
  · exact .error .iface
  · exact .ite (.error .iface) (.ok trivial)

/-- every property either is set, is refused as an interface error, or passes on the failure of the
conversion of its value; the walk takes the properties in the order of the source -/
theorem setKnownProperty_ends (df : DataFormat) (n : String) (value : Str) (k : Bool) :
    Ends PyExn.Clean (fun _ => True) (df.setKnownProperty n value k) := by
  have hi := validatedIntAtLeast0_ends value
  unfold DataFormat.setKnownProperty
  -- encoding, header
  refine .ite (.ite (.ok trivial) (.error .iface)) <| .ite (hi.map _ fun _ _ => trivial) ?_
  -- allowed_characters
  refine .ite ?_ ?_
  · split
    · exact .ok trivial
    · exact .error .iface
    · exact .error ((Range.parse_ends value none).error_mem ‹_›)
  -- decimal_separator, escape_character: one character out of two
  refine .ite ?_ <| .ite ?_ ?_
  · split
    · exact .ite (.ok trivial) (.error .iface)
    · exact .error .iface
  · split
    · exact .ite (.ok trivial) (.error .iface)
    · exact .error .iface
  -- item_delimiter
  refine .ite ((validatedCharacter_ends value).elim (fun _ he => .error he) fun _ _ => .ite (.error .iface) (.ok trivial)) ?_
  -- line_delimiter: `any`, `lf`, `cr`, `crlf`, `none`
  refine .ite (.ite (.error .unsupported) <| .ite (.ok trivial) <| .ite (.ok trivial) <| .ite (.ok trivial) <| .ite (.ok trivial) <|
    .ite (.ite (.ok trivial) (.error .iface)) (.error .iface)) ?_
  -- quote_character
  refine .ite ?_ ?_
  · split
    · exact .ite (.ok trivial) (.error .iface)
    · exact .error .iface
  -- quoting, sheet, skip_initial_space
  refine .ite (.ite (.error .unsupported) <| .ite (.ok trivial) <| .ite (.ok trivial) (.error .iface)) ?_
  refine .ite (hi.elim (fun _ he => .error he) fun _ _ => .ite (.ok trivial) (.error .iface)) ?_
  refine .ite (.ite (.error .unsupported) <| .ite (.ok trivial) <| .ite (.ok trivial) (.error .iface)) ?_
  -- thousands_separator; `format` and `is_valid` cannot be set
  refine .ite ?_ (.error .iface)
  split
  · exact .ok trivial
  · exact .ite (.ok trivial) (.error .iface)
  · exact .error .iface

theorem setProperty_ends (df : DataFormat) (name value : Str) (k : Bool) :
    Ends PyExn.Clean (fun _ => True) (df.setProperty name value k) :=
  .ite (.error .iface) (setKnownProperty_ends _ _ _ _)

theorem create_ends (n : Str) : Ends PyExn.Clean (fun _ => True) (DataFormat.create n) :=
  .ite (.ok trivial) <| .ite (.ok trivial) <| .ite (.ok trivial) <| .ite (.ok trivial) (.error .iface)

theorem buildDataFormat_ends (cid : Cid) (cells : List Str) (enc : Str → Bool) :
    Ends PyExn.Clean (fun _ => True) (buildDataFormat cid cells enc) := by
  unfold buildDataFormat
  extract_lets name value lname isFormat create named ascii
  have h : Ends PyExn.Clean (fun _ => True) (named ()) := by
    unfold named
    split
    · exact .ite (.error .iface) <| .ite (.error .unsupported) (create_ends _)
    · exact .ite (.error .iface) (setProperty_ends _ _ _ _)
  exact .ite (.error .iface) <| .ite (.error .unsupported) h

theorem isUniqueLoop_ends (names : List Str) (fuel : Nat) : ∀ (toks : List Tok) (ac : Bool) (acc : List Str),
    HasEof toks → Ends PyExn.Clean (fun _ => True) (isUniqueLoop names fuel toks ac acc) := by
  induction fuel with
  | zero => intro _ _ _ _; unfold isUniqueLoop; exact .error .unsupported
  | succ fuel ih =>
    intro toks ac acc h
    refine h.elim fun t ts h => ?_
    rw [isUniqueLoop]
    refine .by_cases (fun _ => .ok trivial) fun he => ?_
    have next : ∀ ac acc, Ends _ _ (isUniqueLoop names fuel ts ac acc) := fun _ _ => ih _ _ _ (h.tail he)
    refine .ite (.ite (.error .iface) ?_) (.ite (.error .iface) (next _ _))
    split
    · exact .error .iface
    · exact .ite (.error .iface) (next _ _)

theorem parseIsUnique_ends (rule : Str) (names : List Str) : Ends PyExn.Clean (fun _ => True) (parseIsUnique rule names) := by
  unfold parseIsUnique
  refine .ite (.error .iface) ?_
  refine (liftLex_ends (generatedTokens_tokenized rule)).bind fun toks htoks => ?_
  refine (isUniqueLoop_ends _ _ toks true [] htoks.1).bind fun ks _ => ?_
  exact .ite (.error .iface) (.ok trivial)

theorem parseDistinctCount_ends (rule : Str) (names : List Str) :
    Ends PyExn.Clean (fun _ => True) (parseDistinctCount rule names) := by
  unfold parseDistinctCount
  refine .ite (.error .iface) ?_
  refine (liftLex_ends (generatedTokens_tokenized rule)).bind fun toks htoks => ?_
  refine htoks.1.elim fun t _ _ => ?_
  refine .ite (.error .iface) ?_
  split
  · exact .error .iface
  simp only []
  -- the comparison: an operator, a number and the end marker
  split
  · exact .error ((liftLex_ends (tokenizeWithoutSpace_tokenized _)).error_mem ‹_›)
  · refine .ite (.error .unsupported) ?_
    split
    · exact .ok trivial
    · exact .error .unsupported
  · exact .error .unsupported

theorem buildCheck_ends (cid : Cid) (cells : List Str) (w : Bool) : Ends PyExn.Clean (fun _ => True) (buildCheck cid cells w) := by
  unfold buildCheck
  extract_lets items desc ty rule tys names withDecl parts
  have h : ∀ decl, Ends PyExn.Clean (fun _ => True) (withDecl decl) := fun _ => .ite (.error .iface) (.ok trivial)
  refine .ite (.error .iface) ?_
  refine .ite (((parseIsUnique_ends _ _).map (Q := fun _ => True) _ fun _ _ => trivial).bind fun _ _ => h _) ?_
  refine .ite (((parseDistinctCount_ends _ _).map (Q := fun _ => True) _ fun _ _ => trivial).bind fun _ _ => h _) ?_
  refine .ite (Ends.bind (P := fun _ => True) ?_ fun _ _ => h _) (.error .iface)
  refine .ite (.error .iface) ?_
  split
  · exact .ok trivial
  · exact .error .unsupported

theorem validatedFieldName_ends (s : Str) : Ends (· = .iface) (fun _ => True) (validatedFieldName s) := by
  refine .ite (.error rfl) <| .ite (.error rfl) ?_
  split
  · exact .error rfl
  · exact .ite (.error rfl) <| .ite (.ok trivial) (.error rfl)

theorem validatedPythonName_ends (v : Str) : Ends PyExn.Clean (fun _ => True) (validatedPythonName v) := by
  unfold validatedPythonName
  refine (generatedTokens_tokenized _).elim (fun e _ => ?_) fun toks h => ?_
  · cases e
    · exact .error .iface
    · exact .error .unsupported
  refine h.1.elim fun t rest h => ?_
  refine .by_cases (fun _ => .ok trivial) fun he => .ite (.ok trivial) ?_
  exact (h.tail he).elim fun t2 _ _ => .ite (.ok trivial) (.ok trivial)

theorem fieldTypeStem_check_ends : ∀ ps : List Str, Ends PyExn.Clean (fun _ => True) (fieldTypeStem.check ps) := by
  intro ps
  induction ps with
  | nil => unfold fieldTypeStem.check; exact .ok trivial
  | cons p ps ih =>
    unfold fieldTypeStem.check
    refine (validatedPythonName_ends p).elim (fun _ he => .error he) fun n _ => ?_
    cases n with
    | none => exact .ok trivial
    | some n =>
      simp only []
      split
      · exact .ok trivial
      · exact ih

theorem fieldTypeStem_ends (cell : Str) : Ends PyExn.Clean (fun _ => True) (fieldTypeStem cell) :=
  .ite (.ok trivial) (fieldTypeStem_check_ends _)

/-- "Validate field length", walked once for both of its sides: it only refuses with an interface error, and what it lets
through has, in fixed format, one specific length of at least 1 and elsewhere no negative limit -/
theorem lengthDeclOk_ends (fmt : Format) (length : Range) :
    Ends PyExn.Clean (fun _ =>
      (fmt = .fixed → ∃ l, length.lowerLimit = some l ∧ length.upperLimit = some l ∧ 1 ≤ l ∧ length.items.getD [] ≠ []) ∧
      (fmt ≠ .fixed → (∀ l, length.lowerLimit = some l → 0 ≤ l) ∧
                       (length.lowerLimit = none → ∀ u, length.upperLimit = some u → 0 ≤ u)))
      (lengthDeclOk fmt length) := by
  unfold lengthDeclOk
  refine .by_cases (fun hf => ?_) fun hf => ?_
  · refine .by_cases (fun _ => .error .iface) fun hne => ?_
    cases length.lowerLimit with
    | none => exact .error .iface
    | some l =>
      refine .by_cases (fun _ => .error .iface) fun hu => .by_cases (fun _ => .error .iface) fun h1 => .ok ⟨fun _ => ?_, ?_⟩
      · exact ⟨l, rfl, by simpa using hu, by omega, by simpa using hne⟩
      · exact fun h => absurd (by simpa using hf) h
  · have hf : fmt ≠ .fixed := by simpa using hf
    cases length.lowerLimit with
    | some l => exact .by_cases (fun _ => .error .iface) fun h0 => .ok ⟨(absurd · hf), fun _ => by simp; omega⟩
    | none =>
      cases length.upperLimit with
      | some u => exact .by_cases (fun _ => .error .iface) fun h0 => .ok ⟨(absurd · hf), fun _ => by simp; omega⟩
      | none => exact .ok ⟨(absurd · hf), fun _ => by simp⟩

theorem exampleOk_ends (field : Field) (hf : field.kind.WF) (ex : Str) : Ends PyExn.Clean (fun _ => True) (exampleOk field ex) := by
  refine .ite ?_ (.ok trivial)
  refine (field.validated_ends hf ex).elim (fun _ he => .error (.inr he)) fun v _ => ?_
  cases v
  · exact .error .iface
  · exact .ok trivial

/-- the field a field row declares cannot fail internally when it validates a value -/
theorem declareCells_ends (df : DataFormat) (cid : Cid) (cells : List Str) (w : Bool) :
    Ends PyExn.Clean2 (fun (_, _, _, _, field) => field.kind.WF) (declareCells df cid cells w) := by
  unfold declareCells
  refine Ends.bind ((validatedFieldName_ends _).mono (fun _ => .inl) fun _ => id) fun name _ => ?_
  extract_lets +onlyGivenNames _ _ _ _ _ _ withMark
  have h : ∀ allowEmpty, Ends PyExn.Clean2 (fun (_, _, _, _, field) => field.kind.WF) (withMark allowEmpty) := by
    intro allowEmpty
    refine (fieldTypeStem_ends _).clean2.bind fun stem _ => ?_
    cases stem with
    | none => exact .error .iface
    | some stem =>
      simp only [pure_bind]
      split
      · exact .error .iface
      · exact (declareFieldIn_ends _ _ _ _ _).bind fun _ hf => .ok hf
  clear_value withMark
  exact .ite (.error .iface) <| .ite (.error .unsupported) <| .ite (h _) <| .ite (h _) (.error .iface)

/-- the field of an accepted field row validates without internal failures, and its length has passed `lengthDeclOk` -/
theorem buildFieldWith_ends (df : DataFormat) (cid : Cid) (cells : List Str) (w : Bool) :
    Ends PyExn.Clean2 (fun f => f.field.kind.WF ∧ lengthDeclOk df.format f.field.length = .ok ()) (buildFieldWith df cid cells w) := by
  refine (declareCells_ends df cid cells w).bind fun (name, stem, rule, ex, field) hf => ?_
  refine (Ends.self (lengthDeclOk_ends _ _).clean2.1).bind fun _ hlen => ?_
  exact (exampleOk_ends field hf ex).clean2.bind fun _ _ => .ok ⟨hf, hlen⟩

theorem buildField_ends (cid : Cid) (cells : List Str) (w : Bool) :
    Ends PyExn.Clean2 (fun f => f.field.kind.WF) (buildField cid cells w) := by
  unfold buildField
  split
  · exact .error .iface
  · exact (buildFieldWith_ends _ cid cells w).mono (fun _ => id) fun _ => And.left

/-- every field of the interface definition validates without internal failures -/
def Cid.WF (cid : Cid) : Prop := ∀ f ∈ cid.fields, f.field.kind.WF

theorem readRow_ends (cid : Cid) (hc : cid.WF) (row : List Str) (w : Bool) (enc : Str → Bool) :
    Ends PyExn.Clean2 Cid.WF (readRow cid row w enc) := by
  unfold readRow
  split
  · exact .ok hc
  · exact (buildDataFormat_ends _ _ _).clean2.map _ fun _ _ => hc
  · exact (buildField_ends _ _ _).map _ fun f hf => List.forall_mem_append.2 ⟨hc, List.forall_mem_singleton.2 hf⟩
  · exact (buildCheck_ends _ _ _).clean2.map _ fun _ _ => hc
  · exact .error .iface
  · exact .error .unsupported

theorem readLoopCid_ends (w : Bool) (enc : Str → Bool) : ∀ (rows : List (List Str)) (cid : Cid) (line : Nat), cid.WF →
    Ends (fun e : CidErr => PyExn.Clean2 e.exn) (fun (c, _) => c.WF) (readLoopCid w enc cid line rows) := by
  intro rows
  induction rows with
  | nil => intro _ _ hc; exact .ok hc
  | cons row rest ih =>
    intro cid line hc
    rw [readLoopCid]
    exact (readRow_ends cid hc row w enc).elim (fun _ he => .error he) fun cid' hc' => ih cid' _ hc'

/-- Any number of comment rows in front of any rows only move the line on; with `readLoop_append` of Props/C09 this is
"comment rows anywhere", and `C09_decoration_comment` is the case of one row. -/
theorem readLoopCid_comments (w : Bool) (enc : Str → Bool) (cid : Cid) (line : Nat) (cs post : List (List Str))
    (h : ∀ c ∈ cs, rowKind c = .comment) :
    readLoopCid w enc cid line (cs ++ post) = readLoopCid w enc cid (line + cs.length) post := by
  induction cs generalizing line with
  | nil => rfl
  | cons c cs ih =>
    have hc : readRow cid c w enc = .ok cid := by simp [readRow, h c List.mem_cons_self]
    simp only [List.cons_append, readLoopCid, hc]
    rw [ih _ fun c hc => h c (List.mem_cons_of_mem _ hc), List.length_cons, Nat.add_comm cs.length, Nat.add_assoc]

/-- A rejection while reading names the row at which it happened (C09): the rows before row `k` were read, row `k` was refused
with this exception, and the line reported is that of row `k`. -/
theorem readLoopCid_error (w : Bool) (enc : Str → Bool) (cid : Cid) (line : Nat) (rows : List (List Str))
    (err : CidErr) (h : readLoopCid w enc cid line rows = .error err) :
    ∃ k c row, rows[k]? = some row ∧ readLoopCid w enc cid line (rows.take k) = .ok (c, line + k) ∧
      readRow c row w enc = .error err.exn ∧ err.line = some (line + k) := by
  induction rows generalizing cid line with
  | nil => cases h
  | cons row rest ih =>
    rw [readLoopCid] at h
    cases hr : readRow cid row w enc with
    | error x =>
      rw [hr] at h
      cases h
      exact ⟨0, cid, row, rfl, rfl, hr, rfl⟩
    | ok cid' =>
      rw [hr] at h
      obtain ⟨k, c, r, h1, h2, h3, h4⟩ := ih cid' (line + 1) h
      refine ⟨k + 1, c, r, h1, ?_, h3, by rw [h4, Nat.add_right_comm, Nat.add_assoc]⟩
      simp only [List.take_succ_cons, readLoopCid, hr]
      rw [h2, Nat.add_right_comm, Nat.add_assoc]

theorem Cid.read_ends (rows : List (List Str)) (w : Bool) (enc : Str → Bool) :
    Ends (fun e : CidErr => PyExn.Clean2 e.exn) Cid.WF (Cid.read rows w enc) := by
  unfold Cid.read
  refine (readLoopCid_ends w enc rows {} 0 fun _ h => nomatch h).elim (fun _ he => .error he) fun (cid, line) hc => ?_
  simp only []
  split
  · exact .error .iface
  · exact .ite (.error .iface) <| .ite (.error .iface) (.ok hc)

end Cutplace
