import Cutplace.Proofs.CharLemmas
namespace Cutplace

theorem parseBase_snoc (b : Nat) (ds : List Nat) (d : Nat) : parseBase b (ds ++ [d]) = parseBase b ds * b + d := by
  simp [parseBase]

theorem parseDigits_snoc (ds : List Nat) (d : Nat) : parseDigits (ds ++ [d]) = parseDigits ds * 10 + d :=
  parseBase_snoc 10 ds d

theorem parse_digits (n : Nat) : parseDigits (digits n) = n := by
  fun_induction digits n with
  | case1 n _ => simp [parseDigits]
  | case2 n _ ih => rw [parseDigits_snoc, ih]; omega

theorem digits_lt10 (n : Nat) : ∀ d ∈ digits n, d < 10 := by
  fun_induction digits n with
  | case1 n h => simpa using h
  | case2 n _ ih =>
    intro d hd
    rcases List.mem_append.mp hd with hd | hd
    · exact ih d hd
    · rw [List.mem_singleton.mp hd]; omega

theorem digits_ne_nil (n : Nat) : digits n ≠ [] := by
  unfold digits; split <;> simp

theorem digits_head_ne_zero (n : Nat) (h : 1 ≤ n) : ∃ d ds, digits n = d :: ds ∧ d ≠ 0 := by
  fun_induction digits n with
  | case1 n _ => exact ⟨n, [], rfl, by omega⟩
  | case2 n _ ih =>
    obtain ⟨d, ds, hd, hne⟩ := ih (by omega)
    exact ⟨d, ds ++ [n % 10], by rw [hd]; rfl, hne⟩

def numDigits (n : Nat) : Nat := (digits n).length

theorem numDigits_eq (n : Nat) : numDigits n = if n < 10 then 1 else numDigits (n / 10) + 1 := by
  rw [numDigits, digits]
  split <;> simp [numDigits]

theorem numDigits_pos (n : Nat) : 0 < numDigits n := by
  rw [numDigits_eq]; split <;> omega

theorem numDigits_le_iff (n k : Nat) (hk : 0 < k) : numDigits n ≤ k ↔ n < 10 ^ k := by
  induction k generalizing n with
  | zero => omega
  | succ k ih =>
    rw [numDigits_eq, Nat.pow_succ]
    have := Nat.one_le_pow k 10 (by omega)
    split
    · omega
    · cases k with
      | zero => have := numDigits_pos (n / 10); omega
      | succ k => rw [Nat.add_le_add_iff_right, ih _ (by omega), Nat.div_lt_iff_lt_mul (by omega)]

theorem numDigits_ge_iff (m k : Nat) (hm : 1 ≤ m) (hk : 1 ≤ k) : k ≤ numDigits m ↔ 10 ^ (k - 1) ≤ m := by
  cases k with
  | zero => omega
  | succ k =>
    cases k with
    | zero => exact ⟨fun _ => hm, fun _ => numDigits_pos m⟩
    | succ k =>
      have := numDigits_le_iff m (k + 1) (by omega)
      simp only [Nat.add_sub_cancel]
      omega

theorem digits_within_limit (n : Nat) (h : n < 10 ^ maxStrDigits) : (digits n).length ≤ maxStrDigits :=
  (numDigits_le_iff n _ (by decide)).mpr h

theorem digits_snoc (n d : Nat) (hn : 0 < n) (hd : d < 10) : digits (10 * n + d) = digits n ++ [d] := by
  rw [digits, dif_neg (by omega)]
  congr <;> omega

theorem digits_pow10 (k : Nat) : digits (10 ^ k) = 1 :: List.replicate k 0 := by
  induction k with
  | zero => simp [digits]
  | succ k ih =>
    have := digits_snoc (10 ^ k) 0 (Nat.one_le_pow k 10 (by omega)) (by omega)
    rw [Nat.pow_succ, Nat.mul_comm, ← Nat.add_zero (10 * _), this, ih, List.replicate_succ']
    rfl

theorem digits_pow10_pred (k : Nat) : digits (10 ^ (k + 1) - 1) = List.replicate (k + 1) 9 := by
  induction k with
  | zero => simp [digits]
  | succ k ih =>
    have hp : 10 ≤ 10 ^ (k + 1) := Nat.le_self_pow (by omega) 10
    have := digits_snoc (10 ^ (k + 1) - 1) 9 (by omega) (by omega)
    rw [show 10 ^ (k + 1 + 1) - 1 = 10 * (10 ^ (k + 1) - 1) + 9 by rw [Nat.pow_succ]; omega, this, ih, ← List.replicate_succ']

/-- what the digit characters are, as far as the conversions look at them -/
theorem digitChar_facts (d : Nat) (h : d < 10) :
    isAsciiDigit (digitChar d) = true ∧ digitVal (digitChar d) = d ∧ isPySpace (digitChar d) = false ∧
      digitChar d ≠ '_' ∧ digitChar d ≠ '-' ∧ digitChar d ≠ '+' ∧ (digitChar d).toNat < 128 := by
  revert d
  decide

theorem isAsciiDigit_digitChar (d : Nat) (h : d < 10) : isAsciiDigit (digitChar d) = true := (digitChar_facts d h).1
theorem digitVal_digitChar (d : Nat) (h : d < 10) : digitVal (digitChar d) = d := (digitChar_facts d h).2.1
theorem digitChar_not_space (d : Nat) (h : d < 10) : isPySpace (digitChar d) = false := (digitChar_facts d h).2.2.1

theorem natRepr_chars (n : Nat) : ∀ c ∈ natRepr n, isAsciiDigit c = true := by
  intro c hc
  obtain ⟨d, hd, rfl⟩ := List.mem_map.mp hc
  exact isAsciiDigit_digitChar d (digits_lt10 n d hd)

theorem natRepr_ne_nil (n : Nat) : natRepr n ≠ [] := by
  simpa [natRepr] using digits_ne_nil n

theorem dropDigitUnderscores_go_all (ok : Char → Bool) (hu : ok '_' = false) (cs : Str) (h : ∀ c ∈ cs, ok c = true) (acc : Str) :
    dropDigitUnderscores.go ok cs acc = some (acc.reverse ++ cs) := by
  induction cs generalizing acc with
  | nil => simp [dropDigitUnderscores.go]
  | cons c cs ih =>
    have hc := h c (by simp)
    have hne : c ≠ '_' := by rintro rfl; rw [hu] at hc; cases hc
    -- `eq_4`: the arm of `go` for a character that is no underscore
    rw [dropDigitUnderscores.go.eq_4 ok acc c cs (fun _ _ e _ => hne e) (fun e _ => hne e)]
    simp [hc, ih (fun x hx => h x (by simp [hx]))]

theorem dropDigitUnderscores_all (ok : Char → Bool) (hu : ok '_' = false) (cs : Str) (hne : cs ≠ []) (h : ∀ c ∈ cs, ok c = true) :
    dropDigitUnderscores ok cs = some cs := by
  obtain ⟨c, cs, rfl⟩ := List.exists_cons_of_ne_nil hne
  simp [dropDigitUnderscores, h c (by simp), dropDigitUnderscores_go_all ok hu cs (fun x hx => h x (by simp [hx]))]

theorem map_digitVal_digitChar (ds : List Nat) (h : ∀ d ∈ ds, d < 10) : (ds.map digitChar).map digitVal = ds :=
  List.map_map.trans ((List.map_congr_left fun d hd => digitVal_digitChar d (h d hd)).trans (List.map_id ds))

theorem intRepr_eq (n : Int) : intRepr n = (if n < 0 then ['-'] else []) ++ (digits n.natAbs).map digitChar := by
  unfold intRepr natRepr; split <;> rfl

theorem mem_intRepr {n : Int} {c : Char} (h : c ∈ intRepr n) : c = '-' ∨ ∃ d, d < 10 ∧ c = digitChar d := by
  rw [intRepr_eq, List.mem_append, List.mem_map] at h
  rcases h with h | ⟨d, hd, rfl⟩
  · simp_all
  · exact .inr ⟨d, digits_lt10 _ d hd, rfl⟩

theorem splitSign_sign (neg : Bool) (ds : List Nat) (h : ∀ d ∈ ds, d < 10) :
    splitSign ((if neg then ['-'] else []) ++ ds.map digitChar) = (neg, ds.map digitChar) := by
  cases neg
  · cases ds with
    | nil => rfl
    | cons d ds =>
      obtain ⟨_, _, _, _, hminus, hplus, _⟩ := digitChar_facts d (h d (by simp))
      unfold splitSign
      split
      · rename_i heq; exact absurd (List.cons.inj heq).1 hminus
      · rename_i heq; exact absurd (List.cons.inj heq).1 hplus
      · rfl
  · rfl

/-- **`int(str(n))`**: within CPython's conversion limit the canonical text of an integer denotes that integer; beyond
it the conversion is refused -/
theorem pyIntBase10_intRepr (n : Int) :
    pyIntBase10 (intRepr n) = if (digits n.natAbs).length > maxStrDigits then none else some n := by
  have hlt := digits_lt10 n.natAbs
  have hdrop : dropDigitUnderscores isAsciiDigit ((digits n.natAbs).map digitChar) = some ((digits n.natAbs).map digitChar) :=
    dropDigitUnderscores_all _ (by decide) _ (natRepr_ne_nil _) (natRepr_chars _)
  have hs : strip (intRepr n) = intRepr n := strip_of_no_space _ fun c hc => by
    rcases mem_intRepr hc with rfl | ⟨d, hd, rfl⟩
    · decide
    · exact digitChar_not_space d hd
  have hsign := splitSign_sign (decide (n < 0)) _ hlt
  simp only [decide_eq_true_eq] at hsign
  rw [pyIntBase10, hs]
  simp only [intRepr_eq, hsign, hdrop, List.length_map,
    map_digitVal_digitChar _ hlt, parse_digits, decide_eq_true_eq]
  split
  · rfl
  · congr 1; split <;> omega

theorem intRepr_isAscii (n : Int) : isAscii (intRepr n) = true := by
  simp only [isAscii, List.all_eq_true, decide_eq_true_eq]
  intro c hc
  rcases mem_intRepr hc with rfl | ⟨d, hd, rfl⟩
  · decide
  · exact (digitChar_facts d hd).2.2.2.2.2.2

theorem natRepr_isAscii (n : Nat) : isAscii (natRepr n) = true :=
  intRepr_isAscii n

theorem pyInt_natRepr (n : Nat) (hd : (digits n).length ≤ maxStrDigits) : pyIntBase10 (natRepr n) = some (n : Int) := by
  have := pyIntBase10_intRepr n
  rwa [Int.natAbs_natCast, if_neg (by omega)] at this

theorem natRepr_one : natRepr 1 = ['1'] := by rw [natRepr, digits]; rfl

end Cutplace
