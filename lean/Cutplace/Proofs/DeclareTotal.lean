import Cutplace.Proofs.RangeTotal
import Cutplace.Proofs.DecimalTotal
import Cutplace.Model.Fields
/-
Declaring a field (`<Type>FieldFormat.__init__`) fails only with an interface error or the recorded
`OverflowError`, and a declared field cannot fail internally when it validates a value.
The bodies are `do` blocks; `extract_lets` names their join points, so that what a continuation
guarantees is stated once and not once per branch that reaches it.  `clear_value` then forgets the
continuation's body: a branch `pure b >>= k` is matched with the guarantee `h _` by computing the bind,
not by unfolding `k`.
-/
namespace Cutplace

theorem Range.parse_ends2 (d : Str) : Ends PyExn.Clean2 (fun _ => True) (Range.parse d) := (Range.parse_ends d none).clean2

theorem createRangeFromLength_ends (len : Range) :
    Ends (fun e => PyExn.Clean2 e ∨ e = .data .range) (fun _ => True) (createRangeFromLength len) := by
  have parse : ∀ d, Ends (fun e => PyExn.Clean2 e ∨ e = .data .range) (fun _ : Range => True) (Range.parse d) :=
    fun d => (Range.parse_ends2 d).mono (fun _ => .inl) fun _ => id
  unfold createRangeFromLength
  split
  · exact parse _
  · exact .ite (.error (.inr rfl)) <| .ite (.error (.inl .overflow)) <| .ite (.error (.inl .unsupported)) (parse _)

theorem declareInteger_ends (fixed : Bool) (lengthText rule : Str) (length : Range) :
    Ends PyExn.Clean2 (fun _ => True) (declareInteger fixed lengthText rule length) := by
  unfold declareInteger
  extract_lets _ _ withLenInfo withLen
  have h1 : ∀ lenInfo, Ends PyExn.Clean2 (fun _ => True) (withLenInfo lenInfo) := by
    intro lenInfo
    unfold withLenInfo
    extract_lets withRule
    have h : ∀ ruleRange, Ends PyExn.Clean2 (fun _ => True) (withRule ruleRange) := by
      intro ruleRange
      unfold withRule
      split
      · exact .ite (.ok trivial) (.error .iface)
      · exact .ok trivial
      · exact .ok trivial
      · exact Range.parse_ends2 _
    clear_value withRule
    exact .ite (((Range.parse_ends2 _).map (Q := fun _ => True) some fun _ _ => trivial).bind fun _ _ => h _) (h _)
  clear_value withLenInfo
  have h2 : ∀ len, Ends PyExn.Clean2 (fun _ => True) (withLen len) := by
    intro len
    unfold withLen
    -- a `RangeValueError` from the length is reported as an interface error
    refine (createRangeFromLength_ends len).elim (fun e he => ?_) fun _ _ => h1 _
    rcases he with (rfl | rfl | rfl) | rfl
    · exact .error .iface
    · exact .error .unsupported
    · exact .error .overflow
    · exact .error .iface
  clear_value withLen
  refine .ite (.ite (.ite (.error .iface) ?_) (h2 _)) (h1 _)
  split
  · exact .error .iface
  · exact (Range.parse_ends2 _).bind fun _ _ => h2 _

theorem choiceLoop_ends (fuel : Nat) : ∀ (toks : List Tok) (acc : List Str), HasEof toks →
    Ends PyExn.Clean (fun _ => True) (choiceLoop fuel toks acc) := by
  induction fuel with
  | zero => intro _ _ _; unfold choiceLoop; exact .error .unsupported
  | succ fuel ih =>
    intro toks acc h
    refine h.elim fun t ts h => ?_
    rw [choiceLoop]
    refine .by_cases (fun _ => .ok trivial) fun he => .ite (.error .iface) <| .ite (.error .iface) ?_
    refine (h.tail he).elim fun t2 ts2 h2 => ?_
    refine .by_cases (fun _ => .ok trivial) fun he2 => .ite (.error .iface) ?_
    refine (h2.tail he2).elim fun t3 ts3 h3 => ?_
    exact .ite (.error .iface) (ih _ _ h3)

/-- a decimal field's range has only finite limits; a date/time field's format uses no directive twice -/
def FieldKind.WF : FieldKind → Prop
  | .decimal _ _ valid => valid.Fin
  | .datetime fmt _ _ => hasDuplicateDirective fmt = false
  | _ => True

theorem declareFieldIn_ends (ty : TypeName) (info : FormatInfo) (allowEmpty : Bool) (lengthText rule : Str) :
    Ends PyExn.Clean2 (fun f => f.kind.WF) (declareFieldIn ty info allowEmpty lengthText rule) := by
  have lex := (liftLex_ends (tokenizeWithoutSpace_tokenized rule)).clean2
  unfold declareFieldIn
  extract_lets fmt allowed fixed _ sf hasSub hasTime withLength
  suffices h : ∀ length, Ends PyExn.Clean2 (fun f : Field => f.kind.WF) (withLength length) from
    .ite ((Range.parse_ends2 _).bind fun _ _ => h _) ((Range.parse_ends2 _).bind fun _ _ => h _)
  intro length
  unfold withLength
  extract_lets mk withConstant withAscii
  cases ty with
  | text | scripted => exact .ok trivial
  | integer => exact (declareInteger_ends _ _ _ _).bind fun _ _ => .ok trivial
  | choice =>
    refine lex.bind fun toks htoks => (choiceLoop_ends _ toks [] htoks.1).clean2.bind fun cs _ => ?_
    exact .ite (.error .iface) (.ok trivial)
  | constant =>
    refine lex.bind fun toks htoks => ?_
    have h : ∀ c, Ends PyExn.Clean2 (fun f : Field => f.kind.WF) (withConstant c) := fun c =>
      .ite (.error .iface) <| .ite (.error .iface) <| .ite (.error .iface) (.ok trivial)
    refine htoks.1.elim fun t ts hts => ?_
    refine .by_cases (fun _ => h _) fun he => ?_
    refine (hts.tail he).elim fun t2 ts2 _ => ?_
    exact .ite (h _) (.error .iface)
  | decimal =>
    refine (DecimalRange.parse_ends _ _).clean2.bind fun valid hvalid => ?_
    exact (Range.parse_ends2 _).bind fun _ _ => .ok hvalid
  | datetime =>
    refine .ite (.error .unsupported) ?_
    unfold withAscii
    split
    · exact .error .unsupported
    · exact .ok (show hasDuplicateDirective [FmtTok.lit '%'] = false by decide)
    · exact .by_cases (fun _ => .error .iface) fun hd => .ok (show hasDuplicateDirective _ = false by simpa using hd)
  | pattern =>
    simp only []
    split
    · exact .ite (.ok trivial) (.error .unsupported)
    · exact .error .unsupported
  | regex =>
    simp only []
    split
    · exact .ok trivial
    · exact .error .unsupported

/-- validating a value with a declared field fails only outside the modelled fragment: a rejection is a
result (`none`), not an exception -/
theorem validatedValue_ends (k : FieldKind) (hk : k.WF) (v : Str) :
    Ends (· = .unsupported) (fun _ => True) (k.validatedValue v) := by
  cases k with
  | text | choice _ | constant _ | scripted _ => exact .ok trivial
  | pattern _ | regex _ => exact .ite (.error rfl) (.ok trivial)
  | integer valid =>
    refine .ite (.error rfl) ?_
    split <;> exact .ok trivial
  | decimal ds ts valid =>
    unfold FieldKind.validatedValue
    simp only []
    split
    · exact .ok trivial
    · split
      · exact .error rfl
      · exact .ok trivial
      · exact .ok trivial
      · exact .ok trivial
      · rename_i d hinf hnan hd
        -- neither an infinity nor a NaN, so the comparisons with the limits are defined
        have hfin : d.isFin = true := by
          cases d with
          | fin n m e => rfl
          | inf n => exact (hinf n rfl).elim
          | nan => exact (hnan rfl).elim
        obtain ⟨x, hx⟩ := DecimalRange.validate_some valid hk d hfin
        rw [hx]
        cases x <;> exact .ok trivial
  | datetime fmt hasTime excel =>
    -- no directive twice: `re.error` is out of reach
    refine .ite (.error rfl) (.by_cases (fun h => absurd h (Bool.eq_false_iff.1 hk)) fun _ => ?_)
    split <;> exact .ok trivial

/-- the guards of `validated` decide or hand the cell to `validatedValue` (`Field.validatedWith_eq_pre`) -/
theorem Field.validated_ends (f : Field) (hf : f.kind.WF) (v : Str) :
    Ends (· = .unsupported) (fun _ => True) (f.validated v) := by
  rw [Field.validated, Field.validatedWith_eq_pre]
  split
  · exact .ok trivial
  · exact .ok trivial
  · exact validatedValue_ends _ hf _

end Cutplace
