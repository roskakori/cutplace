import Cutplace.Proofs.DateTimeLemmas
import Cutplace.Proofs.DigitLemmas
/-
Completeness of the date/time match, one token at a time: what a token of a format writes - two digits
for day, month, two-digit year, hour, minute and second, four digits for the year, a literal character
as it is - is matched as the value written, whatever follows and whatever digits the literal characters
of the format contain (`matchToks_cons_render`), and the fields come back as written (`fieldsOf_eq`).
`C02_datetime_match_exact` is the induction over the format.
-/
namespace Cutplace

/-- a moment as the fields `strptime` returns -/
structure Civil where
  y : Nat
  mo : Nat
  d : Nat
  h : Nat
  mi : Nat
  s : Nat
  deriving Repr, DecidableEq

def twoDigits (v : Nat) : Str := [digitChar (v / 10), digitChar (v % 10)]
def fourDigits (v : Nat) : Str := [digitChar (v / 1000), digitChar (v / 100 % 10), digitChar (v / 10 % 10), digitChar (v % 10)]

def tokValue (t : FmtTok) (c : Civil) : Nat :=
  match t with
  | .day => c.d | .month => c.mo | .year4 => c.y | .year2 => c.y % 100
  | .hour => c.h | .minute => c.mi | .second => c.s
  | _ => 0

def renderTok (t : FmtTok) (c : Civil) : Str :=
  match t with
  | .lit ch => [ch]
  | .space => [' ']
  | .year4 => fourDigits c.y
  | t => twoDigits (tokValue t c)

def renderFmt : List FmtTok → Civil → Str
  | [], _ => []
  | t :: ts, c => renderTok t c ++ renderFmt ts c

/-- the fields a format picks from a moment -/
def fieldsOf : List FmtTok → Civil → Fields → Fields
  | [], _, f => f
  | t :: ts, c, f => fieldsOf ts c (setField f t (tokValue t c))

/-- the fields are in the ranges the layout can express -/
structure Civil.InRange (c : Civil) : Prop where
  y : c.y ≤ 9999
  mo : 1 ≤ c.mo ∧ c.mo ≤ 12
  d : 1 ≤ c.d ∧ c.d ≤ 31
  h : c.h ≤ 23
  mi : c.mi ≤ 59
  s : c.s ≤ 61

theorem dig_digitChar (k : Nat) (h : k < 10) : dig (digitChar k) = k := digitVal_digitChar k h

theorem digits2_two (p : Nat → Nat → Bool) (v : Nat) (hv : v ≤ 99) (rest : Str) :
    digits2 p (twoDigits v ++ rest) = if p (v / 10) (v % 10) then [(v, rest)] else [] := by
  have ha : v / 10 < 10 := by omega
  have hb : v % 10 < 10 := Nat.mod_lt v (by decide)
  simp only [twoDigits, digits2, List.cons_append, List.nil_append, isAsciiDigit_digitChar _ ha, isAsciiDigit_digitChar _ hb,
    dig_digitChar _ ha, dig_digitChar _ hb, Bool.true_and, Nat.div_add_mod']

theorem digits4_four (v : Nat) (hv : v ≤ 9999) (rest : Str) : digits4 (fourDigits v ++ rest) = [(v, rest)] := by
  have ha : v / 1000 < 10 := by omega
  have hm (k : Nat) : k % 10 < 10 := Nat.mod_lt k (by decide)
  simp only [fourDigits, digits4, List.cons_append, List.nil_append, isAsciiDigit_digitChar, dig_digitChar, ha, hm,
    Bool.and_self, if_true]
  rw [show v / 1000 * 1000 + v / 100 % 10 * 100 + v / 10 % 10 * 10 + v % 10 = v by omega]

/-- alternatives that yield `x` if they fire: `x` comes first iff the first fires or `x` comes first in the rest -/
theorem head?_ite_append {α : Type} (x : α) (p : Bool) (l : List α) :
    ((if p then [x] else []) ++ l).head? = some x ↔ p = true ∨ l.head? = some x := by
  cases p <;> simp

/-- a value in the range of a two-digit directive, written with two digits, is what the directive's first matching
alternative yields, with the rest untouched: each two-digit alternative yields the written value if it fires
(`digits2_two`), and together they cover the range -/
theorem directiveAlts_two (t : FmtTok) (v : Nat) (hv : t.InRange v)
    (ht : t = .day ∨ t = .month ∨ t = .year2 ∨ t = .hour ∨ t = .minute ∨ t = .second) (rest : Str) :
    (directiveAlts t (twoDigits v ++ rest)).head? = some (v, rest) := by
  rcases ht with rfl | rfl | rfl | rfl | rfl | rfl <;> simp only [FmtTok.InRange] at hv <;>
    simp only [directiveAlts, digits2_two _ v (show v ≤ 99 by omega), List.append_assoc, head?_ite_append] <;>
    simp <;> omega

theorem findSome?_of_head? {α β : Type} {l : List α} {x : α} {g : α → Option β} {y : β}
    (hl : l.head? = some x) (hg : g x = some y) : l.findSome? g = some y := by
  cases l with
  | nil => cases hl
  | cons a more => cases hl; simp [hg]

theorem Civil.InRange.tok {c : Civil} (hr : c.InRange) : ∀ t : FmtTok, t.InRange (tokValue t c)
  | .day => hr.d | .month => hr.mo | .hour => hr.h | .minute => hr.mi | .second => hr.s
  | .year2 => Nat.le_of_lt_succ (Nat.mod_lt _ (by decide))
  | .year4 | .lit _ | .space => trivial

theorem matchToks_cons_render (t : FmtTok) (c : Civil) (hr : c.InRange) (ht : t ≠ .space) {ts : List FmtTok} {s : Str}
    {f : Fields} {y : Fields × Str} (h : matchToks ts s (setField f t (tokValue t c)) = some y) :
    matchToks (t :: ts) (renderTok t c ++ s) f = some y := by
  cases t
  case space => exact absurd rfl ht
  case lit ch => simpa [matchToks, renderTok, setField] using h
  case year4 => exact findSome?_of_head? (congrArg List.head? (digits4_four c.y hr.y s)) h
  case day | month | year2 | hour | minute | second =>
    exact findSome?_of_head? (directiveAlts_two _ _ (hr.tok _) (by simp) s) h

def NoSpace (fmt : List FmtTok) : Prop := ∀ t ∈ fmt, t ≠ .space

theorem fieldsOf_eq (fmt : List FmtTok) (c : Civil) (f : Fields) (hy2 : .year2 ∉ fmt) :
    fieldsOf fmt c f =
      { day := if .day ∈ fmt then some c.d else f.day, month := if .month ∈ fmt then some c.mo else f.month,
        year := if .year4 ∈ fmt then some c.y else f.year, hour := if .hour ∈ fmt then c.h else f.hour,
        minute := if .minute ∈ fmt then c.mi else f.minute, second := if .second ∈ fmt then c.s else f.second } := by
  induction fmt generalizing f with
  | nil => rfl
  | cons t ts ih =>
    rw [fieldsOf, ih _ (fun h => hy2 (List.mem_cons_of_mem _ h))]
    cases t <;> simp [setField, tokValue] at hy2 ⊢

end Cutplace
