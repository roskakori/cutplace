import Cutplace.Spec.Sql
import Cutplace.Proofs.DigitLemmas
/-
The integer column types of the four SQL dialects: whichever rung of a dialect's ladder `intColumnType` picks
for a limit, its type holds the whole interval the limit stands for.
-/
namespace Cutplace
open Cutplace.Spec

theorem decimalDigitsFor_eq (m : Int) : decimalDigitsFor m = numDigits (m + 1).toNat := by
  simp [decimalDigitsFor, natRepr, numDigits]

/-- **The column type chosen for the limit `m` stores every `x` from `-(m + 1)` to `m`**, apart from three gaps that stay as
hypotheses: Transact-SQL's `tinyint` has no negative values, ANSI has nothing beyond `int`, and a `decimal(p)` / `number(p)` is
only as wide as the dialect allows.  Each ladder is walked once: on a rung `m` is at most the largest value of its type. -/
theorem canStore_intColumnType (d : Dialect) (m x : Int) (hx : -(m + 1) ≤ x ∧ x ≤ m)
    (htiny : d = .transact → m ≤ MAX_TINYINT → 0 ≤ x) (hansi : d = .ansi → m ≤ MAX_INTEGER)
    (hprec : (if d = .pl then m > MAX_INTEGER else m > MAX_BIGINT) → decimalDigitsFor m ≤ maxPrecision d) :
    canStore d (intColumnType d m) x = true := by
  -- beyond the integer types: `m + 1` has `decimalDigitsFor m` digits, and `|x| ≤ m + 1`
  have hp1 : 1 ≤ decimalDigitsFor m := by have := numDigits_pos (m + 1).toNat; rw [decimalDigitsFor_eq]; omega
  have hdig : x.natAbs < 10 ^ (decimalDigitsFor m).toNat := by
    have := (numDigits_le_iff (m + 1).toNat _ (numDigits_pos _)).1 (Nat.le_refl _)
    rw [decimalDigitsFor_eq, Int.toNat_natCast]
    omega
  simp only [MAX_TINYINT, MAX_INTEGER, MAX_BIGINT] at htiny hansi hprec
  unfold intColumnType
  simp only [MAX_TINYINT, MAX_SMALLINT, MAX_INTEGER, MAX_BIGINT, gt_iff_lt]
  cases d with
  | ansi => have := hansi rfl; simp [intTypes, canStore]; omega
  | pl =>
    by_cases c : 2147483647 < m
    · simp [c, intTypes, canStore, hp1, hprec (by simpa using c), hdig]
    · simp [c, intTypes, canStore]; omega
  | transact =>
    by_cases c1 : m ≤ 255
    · have := htiny rfl c1; simp [c1, intTypes, canStore]; omega
    by_cases c2 : m ≤ 32767
    · simp [c1, c2, intTypes, canStore]; omega
    by_cases c3 : m ≤ 2147483647
    · simp [c1, c2, c3, intTypes, canStore]; omega
    by_cases c4 : m ≤ 9223372036854775807
    · simp [c1, c2, c3, c4, intTypes, canStore]; omega
    · simp [c1, c2, c3, c4, intTypes, canStore, hp1, hprec (by simpa using c4), hdig]
  | db2 =>
    by_cases c2 : m ≤ 32767
    · simp [c2, intTypes, canStore]; omega
    by_cases c3 : m ≤ 2147483647
    · simp [c2, c3, intTypes, canStore]; omega
    by_cases c4 : m ≤ 9223372036854775807
    · simp [c2, c3, c4, intTypes, canStore]; omega
    · simp [c2, c3, c4, intTypes, canStore, hp1, hprec (by simpa using c4), hdig]

theorem signAdjusted_bound (l m : Int) (h : signAdjusted l ≤ m) : -(m + 1) ≤ l ∧ l ≤ m := by
  unfold signAdjusted at h; omega

/-- the same for both limits of a range and the column type chosen for the range -/
theorem canStore_limits (d : Dialect) (lo hi : Int)
    (htiny : d = .transact → ansiIntLimit lo hi ≤ MAX_TINYINT → 0 ≤ lo ∧ 0 ≤ hi) (hansi : d = .ansi → ansiIntLimit lo hi ≤ MAX_INTEGER)
    (hprec : (if d = .pl then ansiIntLimit lo hi > MAX_INTEGER else ansiIntLimit lo hi > MAX_BIGINT) →
      decimalDigitsFor (ansiIntLimit lo hi) ≤ maxPrecision d) :
    canStore d (intColumnType d (ansiIntLimit lo hi)) lo = true ∧ canStore d (intColumnType d (ansiIntLimit lo hi)) hi = true :=
  ⟨canStore_intColumnType d _ lo (signAdjusted_bound lo _ (by unfold ansiIntLimit; omega)) (fun h hm => (htiny h hm).1) hansi hprec,
    canStore_intColumnType d _ hi (signAdjusted_bound hi _ (by unfold ansiIntLimit; omega)) (fun h hm => (htiny h hm).2) hansi hprec⟩

end Cutplace
