import Cutplace.Spec.Ods
import Cutplace.Proofs.DigitLemmas
/-
What C15 rests on, bottom up: run-length coding, the repeat count as text, the text of a cell under every mark-up feature,
a row, the rows of a sheet, and last the document: `odsRows` sees a document only through the rows found in each sheet
(`odsRows_congr`), which is why putting rows into containers or storing cells as covered cells does not change what is read.
-/
namespace Cutplace
open Cutplace.Spec

theorem expandRuns_cons {α} (x : α) (n : Nat) (rest : List (α × Nat)) :
    expandRuns ((x, n) :: rest) = List.replicate n x ++ expandRuns rest := rfl

theorem expandRuns_runs {α} [DecidableEq α] (l : List α) : expandRuns (runs l) = l := by
  fun_induction runs l with
  | case1 => rfl
  | case2 xs y n rest h ih =>
    rw [h, expandRuns_cons] at ih
    rw [expandRuns_cons, List.replicate_succ, List.cons_append, ih]
  | case3 x xs y n rest h _ ih =>
    rw [h] at ih
    rw [expandRuns_cons, ih]; rfl
  | case4 x xs h ih =>
    rw [h] at ih
    rw [← ih]; rfl

theorem runs_pos {α} [DecidableEq α] (l : List α) : ∀ p ∈ runs l, 1 ≤ p.2 := by
  fun_induction runs l with
  | case1 | case4 => simp
  | case2 xs y n rest h ih =>
    rw [h] at ih
    exact List.forall_mem_cons.2 ⟨Nat.le_add_left 1 n, (List.forall_mem_cons.1 ih).2⟩
  | case3 x xs y n rest h _ ih =>
    rw [h] at ih
    exact List.forall_mem_cons.2 ⟨Nat.le_refl 1, ih⟩

theorem runs_fst_mem {α} [DecidableEq α] (l : List α) : ∀ p ∈ runs l, p.1 ∈ l := by
  fun_induction runs l <;> grind

theorem expandRuns_map_one {α} (l : List α) : expandRuns (l.map (fun x => (x, 1))) = l := by
  induction l with
  | nil => rfl
  | cons x xs ih => rw [List.map_cons, expandRuns_cons, ih]; rfl

theorem Xml.attr_cons (tag k k' : String) (v : Str) (attrs : List (String × Str)) (text : Option Str) (children : List Xml)
    (tail : Option Str) :
    (Xml.node tag ((k', v) :: attrs) text children tail).attr k =
      if k' == k then some v else (Xml.node tag attrs text children tail).attr k := by
  cases h : k' == k <;> simp [Xml.attr, Xml.attrs, h]

theorem encodeCell_attr (f : OdsFeatures) (t : Str) (n : Nat) :
    (encodeCell f t n).attr "table:number-columns-repeated" = if n > 1 then some (natRepr n) else none := by
  unfold encodeCell repeatAttr
  split
  · rw [List.cons_append, Xml.attr_cons, if_pos (beq_self_eq_true _)]; rfl
  · rw [List.nil_append]
    split
    · rfl
    · rw [Xml.attr_cons, if_neg (by simp)]; rfl

/-- the text `odsRow.cells` converts to the repeat count: a missing attribute stands for `1` -/
theorem encodeCell_repeatText (f : OdsFeatures) (t : Str) (n : Nat) (hn : 1 ≤ n) :
    ((encodeCell f t n).attr "table:number-columns-repeated").getD ['1'] = natRepr n := by
  rw [encodeCell_attr]
  split
  · rfl
  · obtain rfl : n = 1 := by omega
    exact natRepr_one.symm

theorem optText_getD (s : Str) : (optText s).getD [] = s := by
  unfold optText; cases s <;> simp

theorem textParts_node (tag : String) (attrs : List (String × Str)) (text : Option Str) (children : List Xml) (tail : Option Str) :
    textParts (.node tag attrs text children tail) = TextOut.append (some (some (text.getD []))) (childrenParts children) := by
  rw [textParts]

theorem childrenParts_nil : childrenParts [] = some (some []) := by rw [childrenParts]

/- What `childrenParts` makes of a first child, by its tag.  The branch is chosen by `if_pos` / `if_neg` before anything is
simplified: `simp` on the whole conditional also works in the branches not taken, where it ends up unfolding `textParts`. -/

theorem childrenParts_tab (attrs : List (String × Str)) (text : Option Str) (children : List Xml) (tail : Option Str) (rest : List Xml) :
    childrenParts (.node "text:tab" attrs text children tail :: rest) =
      TextOut.append (some (some ('\t' :: tail.getD []))) (childrenParts rest) := by
  rw [childrenParts, if_neg (by simp), if_pos (beq_self_eq_true _)]; rfl

theorem childrenParts_break (attrs : List (String × Str)) (text : Option Str) (children : List Xml) (tail : Option Str) (rest : List Xml) :
    childrenParts (.node "text:line-break" attrs text children tail :: rest) =
      TextOut.append (some (some ('\n' :: tail.getD []))) (childrenParts rest) := by
  rw [childrenParts, if_neg (by simp), if_neg (by simp), if_pos (beq_self_eq_true _)]; rfl

theorem childrenParts_spaces (n : Nat) (hd : (digits n).length ≤ maxStrDigits) (attrs : List (String × Str)) (text : Option Str)
    (children : List Xml) (tail : Option Str) (rest : List Xml) :
    childrenParts (.node "text:s" (("text:c", natRepr n) :: attrs) text children tail :: rest) =
      TextOut.append (some (some (List.replicate n ' ' ++ tail.getD []))) (childrenParts rest) := by
  rw [childrenParts, if_pos (beq_self_eq_true _)]
  simp only [List.find?_cons_of_pos, beq_self_eq_true, Option.map_some, Option.getD_some, natRepr_isAscii, pyInt_natRepr n hd]
  rfl

theorem childrenParts_elem (tag : String) (h : tag ≠ "text:s" ∧ tag ≠ "text:tab" ∧ tag ≠ "text:line-break")
    (attrs : List (String × Str)) (text : Option Str) (children : List Xml) (tail : Option Str) (rest : List Xml) :
    childrenParts (.node tag attrs text children tail :: rest) =
      TextOut.append (TextOut.append (textParts (.node tag attrs text children tail)) (some (some (tail.getD []))))
        (childrenParts rest) := by
  rw [childrenParts, if_neg (by simpa using h.1), if_neg (by simpa using h.2.1), if_neg (by simpa using h.2.2)]

theorem takeWhile_blank (l : Str) : l.takeWhile (· == ' ') = List.replicate (l.takeWhile (· == ' ')).length ' ' ∧
    l = List.replicate (l.takeWhile (· == ' ')).length ' ' ++ l.drop (l.takeWhile (· == ' ')).length ∧
    (l.takeWhile (· == ' ')).length ≤ l.length := by
  have hp := List.takeWhile_prefix (· == ' ') (l := l)
  have h1 : l.takeWhile (· == ' ') = List.replicate (l.takeWhile (· == ' ')).length ' ' :=
    List.eq_replicate_iff.2 ⟨rfl, fun b hb => by simpa using List.all_eq_true.1 List.all_takeWhile b hb⟩
  exact ⟨h1, by rw [← h1]; exact (List.prefix_iff_eq_append.1 hp).symm, hp.length_le⟩

theorem encodeInline_go (fuel : Nat) : ∀ (text acc : Str), text.length < fuel → text.length < 10 ^ maxStrDigits →
    ∃ r, childrenParts (encodeInlinePlain.go fuel text acc).2 = some (some r) ∧
      ((encodeInlinePlain.go fuel text acc).1.getD []) ++ r = acc.reverse ++ text := by
  intro text acc
  -- one case per arm of `go`; a mark-up element stands for the character(s) it replaces, its tail is what `go` makes of the rest
  fun_induction encodeInlinePlain.go fuel text acc with
  | case1 => intro h; cases h
  | case2 => intro _ _; exact ⟨[], childrenParts_nil, by simp [optText_getD]⟩
  | case3 fuel rest acc _ ih =>
    intro hl hs
    obtain ⟨r, hr1, hr2⟩ := ih (Nat.lt_of_succ_lt_succ hl) (Nat.lt_of_succ_lt hs)
    exact ⟨_, by rw [childrenParts_tab, hr1]; rfl, by rw [optText_getD]; exact congrArg (acc.reverse ++ '\t' :: ·) hr2⟩
  | case4 fuel rest acc _ ih =>
    intro hl hs
    obtain ⟨r, hr1, hr2⟩ := ih (Nat.lt_of_succ_lt_succ hl) (Nat.lt_of_succ_lt hs)
    exact ⟨_, by rw [childrenParts_break, hr1]; rfl, by rw [optText_getD]; exact congrArg (acc.reverse ++ '\n' :: ·) hr2⟩
  | case5 fuel rest acc more _ ih =>
    intro hl hs
    obtain ⟨-, hsplit, htw⟩ := takeWhile_blank rest
    have hk : more.length ≤ rest.length := htw
    simp only [List.length_cons] at hl hs
    obtain ⟨r, hr1, hr2⟩ := ih (by rw [List.length_drop]; omega) (by rw [List.length_drop]; omega)
    refine ⟨_, by rw [natStr, childrenParts_spaces _ (digits_within_limit _ (by omega)), hr1]; rfl, ?_⟩
    show (' ' :: acc).reverse ++ (List.replicate (1 + more.length) ' ' ++ _ ++ r) = _
    rw [List.append_assoc, hr2, Nat.add_comm, List.replicate_succ, List.reverse_cons, List.append_assoc]
    exact congrArg (acc.reverse ++ ' ' :: ' ' :: ·) hsplit.symm
  | case6 fuel c rest acc _ _ _ ih =>
    intro hl hs
    obtain ⟨r, hr1, hr2⟩ := ih (Nat.lt_of_succ_lt_succ hl) (Nat.lt_of_succ_lt hs)
    exact ⟨r, hr1, by simpa using hr2⟩

theorem encodeInlinePlain_parts (w : Bool) (p : Str) (hp : p.length < 10 ^ maxStrDigits) :
    ∃ r, childrenParts (encodeInlinePlain w p).2 = some (some r) ∧ ((encodeInlinePlain w p).1.getD []) ++ r = p := by
  unfold encodeInlinePlain
  split
  · exact encodeInline_go (p.length + 1) p [] (Nat.lt_succ_self _) hp
  · exact ⟨[], childrenParts_nil, by simp [optText_getD]⟩

theorem textParts_encodeInline (f : OdsFeatures) (p : Str) (hp : p.length < 10 ^ maxStrDigits) :
    textParts (.node "text:p" [] (encodeInline f p).1 (encodeInline f p).2 none) = some (some p) := by
  obtain ⟨r, hr1, hr2⟩ := encodeInlinePlain_parts f.whitespace p hp
  rw [textParts_node]
  unfold encodeInline
  split
  · rw [childrenParts_elem "text:span" (by simp), textParts_node, hr1, childrenParts_nil]
    simp [TextOut.append, hr2]
  · rw [hr1]
    simp only [TextOut.append, hr2]

theorem splitLines_go_ne_nil (s acc : Str) : splitLines.go s acc ≠ [] := by
  fun_induction splitLines.go s acc <;> simp [*]

/-- the paragraphs written for the lines of a text read back as the text, line feeds included; along `splitLines.go`, whose
accumulator holds the line begun, reversed -/
theorem joinParas_splitLines_go (f : OdsFeatures) (s acc : Str) (h : acc.length + s.length < 10 ^ maxStrDigits) :
    joinParas ((splitLines.go s acc).map (fun p => .node "text:p" [] (encodeInline f p).1 (encodeInline f p).2 none)) =
      some (some (acc.reverse ++ s)) := by
  fun_induction splitLines.go s acc with
  | case1 acc => simpa [joinParas] using textParts_encodeInline f acc.reverse (by simpa using h)
  | case2 r acc ih =>
    rw [List.length_cons] at h
    -- `eq_3`: the arm of `joinParas` for two or more paragraphs
    rw [List.map_cons, joinParas.eq_3 _ _ (by simpa using splitLines_go_ne_nil r []), ih (by simp; omega),
      textParts_encodeInline f _ (by simp; omega)]
    simp [TextOut.append]
  | case3 c r acc _ ih => simpa using ih (by simp at h ⊢; omega)

theorem filter_tag_map {α} (g : α → Xml) (tag : String) (l : List α) (h : ∀ a, (g a).tag = tag) :
    (l.map g).filter (fun c => c.tag == tag) = l.map g :=
  List.filter_eq_self.2 fun c hc => by obtain ⟨a, _, rfl⟩ := List.mem_map.1 hc; simp [h a]

/-- **the text of an encoded cell is the text that was encoded**, whatever mark-up features the encoder uses (for texts
shorter than the digit limit of `int()`, so that every `text:c` count is converted) -/
theorem encodeCell_value (f : OdsFeatures) (t : Str) (n : Nat) (ht : t.length < 10 ^ maxStrDigits) :
    cellValue (encodeCell f t n) = some (some t) := by
  simp only [cellValue, Xml.childrenTagged, encodeCell, Xml.children, cellParas]
  split
  · obtain rfl : t = [] := by simpa using ‹t.isEmpty = true›
    rfl
  · rw [filter_tag_map _ "text:p" _ (fun a => rfl)]
    split
    · exact joinParas_splitLines_go f t [] (by simpa using ht)
    · exact textParts_encodeInline f t ht

def Xml.isCell (c : Xml) : Bool := c.tag == "table:table-cell" || c.tag == "table:covered-table-cell"

theorem odsRow_of_cells (row : Xml) (h : ∀ c ∈ row.children, c.isCell) : odsRow row = odsRow.cells row.children := by
  unfold odsRow
  exact congrArg odsRow.cells (List.filter_eq_self.2 h)

/-- Decoding a list of encoded cells expands the runs again.  The bounds are asked of the row that comes out: a run is no longer
than the row, and its text is one of the row's. -/
theorem odsRow_cells_encoded (f : OdsFeatures) (rs : List (Str × Nat)) (hpos : ∀ p ∈ rs, 1 ≤ p.2) (row : List Str)
    (hrs : expandRuns rs = row) (hlen : row.length < 10 ^ maxStrDigits) (hcells : ∀ t ∈ row, t.length < 10 ^ maxStrDigits) :
    odsRow.cells (rs.map (fun p => encodeCell f p.1 p.2)) = some (some (row.map some)) := by
  subst hrs
  induction rs with
  | nil => rfl
  | cons p rest ih =>
    obtain ⟨t, n⟩ := p
    rw [expandRuns_cons] at hlen hcells ⊢
    rw [List.length_append, List.length_replicate] at hlen
    have hn : 1 ≤ n := hpos _ (List.mem_cons_self ..)
    have hv := encodeCell_value f t n (hcells t (List.mem_append_left _ (List.mem_replicate.2 ⟨by omega, rfl⟩)))
    have ih' := ih (fun q hq => hpos q (List.mem_cons_of_mem _ hq)) (by omega) (fun t ht => hcells t (List.mem_append_right _ ht))
    have : ¬ ((n : Int) < 1) := by omega
    rw [List.map_cons, odsRow.cells]
    simp only [encodeCell_repeatText f t n hn, natRepr_isAscii, pyInt_natRepr n (digits_within_limit n (by omega)), this, hv, ih',
      Bool.not_true, Bool.false_eq_true, if_false, Int.toNat_natCast, List.map_append, List.map_replicate]

theorem encodeRow_cells (f : OdsFeatures) (row : List Str) (n : Nat) : ∀ c ∈ (encodeRow f row n).children, c.isCell := by
  simp only [encodeRow, Xml.children]
  split <;> exact List.forall_mem_map.2 fun _ _ => rfl

theorem odsRow_encodeRow (f : OdsFeatures) (row : List Str) (n : Nat) (hrow : row.length < 10 ^ maxStrDigits)
    (hcells : ∀ t ∈ row, t.length < 10 ^ maxStrDigits) :
    odsRow (encodeRow f row n) = some (some (row.map some)) := by
  rw [odsRow_of_cells _ (encodeRow_cells f row n)]
  simp only [encodeRow, Xml.children]
  -- with and without column runs the cells are `encodeCell` mapped over a run list that expands to `row`
  split
  · exact odsRow_cells_encoded f (runs row) (runs_pos row) row (expandRuns_runs row) hrow hcells
  · rw [← odsRow_cells_encoded f (row.map (fun t => (t, 1))) (by simp) row (expandRuns_map_one row) hrow hcells, List.map_map]; rfl

/-- rows written with any repeat counts: the reader takes no notice of `table:number-rows-repeated` -/
theorem odsRowsOf_encodeRows (f : OdsFeatures) (ps : List (List Str × Nat))
    (hsmall : ∀ p ∈ ps, p.1.length < 10 ^ maxStrDigits) (hcells : ∀ p ∈ ps, ∀ t ∈ p.1, t.length < 10 ^ maxStrDigits) :
    odsRowsOf (ps.map (fun p => encodeRow f p.1 p.2)) = some (some (ps.map (·.1.map some))) := by
  induction ps with
  | nil => rfl
  | cons p ps ih =>
    have ih' := ih (fun x hx => hsmall x (by simp [hx])) (fun x hx => hcells x (by simp [hx]))
    simp [odsRowsOf, odsRow_encodeRow f p.1 p.2 (hsmall p (by simp)) (hcells p (by simp)), ih']

theorem odsRowsOf_encoded (f : OdsFeatures) (rows : List (List Str))
    (hsmall : ∀ r ∈ rows, r.length < 10 ^ maxStrDigits) (hcells : ∀ r ∈ rows, ∀ t ∈ r, t.length < 10 ^ maxStrDigits) :
    odsRowsOf (rows.map (fun r => encodeRow f r 1)) = some (some (rows.map (·.map some))) := by
  simpa [Function.comp_def] using
    odsRowsOf_encodeRows f (rows.map (·, 1)) (by simpa using hsmall) (by simpa using hcells)

theorem odsRowsOf_congr : ∀ (a b : List Xml), a.map odsRow = b.map odsRow → odsRowsOf a = odsRowsOf b
  | [], [], _ => rfl
  | [], _ :: _, h | _ :: _, [], h => by cases h
  | x :: a, y :: b, h => by
    rw [List.map_cons, List.map_cons, List.cons.injEq] at h
    rw [odsRowsOf, odsRowsOf, h.1, odsRowsOf_congr a b h.2]

theorem mapChildren_tag (g : List Xml → List Xml) (x : Xml) : (mapChildren g x).tag = x.tag := by cases x; rfl
theorem mapChildren_children (g : List Xml → List Xml) (x : Xml) : (mapChildren g x).children = g x.children := by cases x; rfl

/-- decoding the cells of a row looks at a cell's attributes and children only, not at its tag: a covered cell counts like a cell -/
theorem cells_cons_congr {c c' : Xml} {x y : List Xml} (ha : c.attrs = c'.attrs) (hc : c.children = c'.children)
    (h : odsRow.cells x = odsRow.cells y) : odsRow.cells (c :: x) = odsRow.cells (c' :: y) := by
  rw [odsRow.cells, odsRow.cells, Xml.attr, Xml.attr, cellValue, cellValue, Xml.childrenTagged, Xml.childrenTagged, ha, hc, h]

theorem cells_coverCells : ∀ cs : List Xml, odsRow.cells (coverCells cs) = odsRow.cells cs := by
  intro cs
  fun_induction coverCells cs with
  | case1 a tag attrs text children tail rest ih => exact cells_cons_congr rfl rfl (cells_cons_congr rfl rfl ih)
  | case2 cs h => rfl

theorem coverCells_isCell : ∀ cs : List Xml, (∀ c ∈ cs, c.isCell) → ∀ c ∈ coverCells cs, c.isCell := by
  intro cs
  fun_induction coverCells cs with
  | case1 a tag attrs text children tail rest ih =>
    intro h
    simp only [List.forall_mem_cons] at h ⊢
    exact ⟨h.1, rfl, ih h.2.2⟩
  | case2 cs _ => exact id

theorem odsRow_coverCells (row : Xml) (h : ∀ c ∈ row.children, c.isCell) : odsRow (mapChildren coverCells row) = odsRow row := by
  rw [odsRow_of_cells row h, odsRow_of_cells _ (by rw [mapChildren_children]; exact coverCells_isCell _ h), mapChildren_children,
    cells_coverCells]

theorem tableRowsIn_nil : tableRowsIn [] = [] := by rw [tableRowsIn]
theorem tableRowsIn_cons (x : Xml) (rest : List Xml) : tableRowsIn (x :: rest) = tableRowsOf x ++ tableRowsIn rest := by
  rw [tableRowsIn]

theorem tableRowsIn_append (a b : List Xml) : tableRowsIn (a ++ b) = tableRowsIn a ++ tableRowsIn b := by
  induction a with
  | nil => rw [List.nil_append, tableRowsIn, List.nil_append]
  | cons x xs ih => rw [List.cons_append, tableRowsIn, tableRowsIn, ih, List.append_assoc]

theorem tableRowsOf_row (x : Xml) (h : x.tag = "table:table-row") : tableRowsOf x = [x] := by
  obtain ⟨tag, attrs, text, children, tail⟩ := x
  obtain rfl : tag = _ := h
  rw [tableRowsOf, if_pos (beq_self_eq_true _)]

theorem tableRowsOf_header (children : List Xml) :
    tableRowsOf (.node "table:table-header-rows" [] none children none) = tableRowsIn children := by
  rw [tableRowsOf]; simp
theorem tableRowsOf_group (children : List Xml) :
    tableRowsOf (.node "table:table-row-group" [] none children none) = tableRowsIn children := by
  rw [tableRowsOf]; simp
theorem tableRowsOf_plain (children : List Xml) :
    tableRowsOf (.node "table:table-rows" [] none children none) = tableRowsIn children := by
  rw [tableRowsOf]; simp

theorem tableRowsIn_of_rows : ∀ rows : List Xml, (∀ r ∈ rows, r.tag = "table:table-row") → tableRowsIn rows = rows
  | [], _ => tableRowsIn_nil
  | r :: rest, h => by
    rw [tableRowsIn_cons, tableRowsOf_row r (h r (List.mem_cons_self ..)),
      tableRowsIn_of_rows rest (fun x hx => h x (List.mem_cons_of_mem _ hx))]; rfl

theorem tableRowsIn_rows (f : OdsFeatures) (rows : List (List Str × Nat)) :
    tableRowsIn (rows.map (fun p => encodeRow f p.1 p.2)) = rows.map (fun p => encodeRow f p.1 p.2) :=
  tableRowsIn_of_rows _ (List.forall_mem_map.2 fun _ _ => rfl)

/-- wrapping a sheet's children into header rows, outline groups and plain row groups hides no row and adds none, whatever the
children are -/
theorem tableRowsIn_groupRows_any (rows : List Xml) : tableRowsIn (groupRows rows) = tableRowsIn rows := by
  unfold groupRows
  split
  · simp only [tableRowsIn_cons, tableRowsIn_nil, tableRowsOf_header, tableRowsOf_group, tableRowsOf_plain, List.append_nil,
      List.append_assoc]
  · rfl

theorem tableRowsIn_groupRows (f : OdsFeatures) (rows : List (List Str × Nat)) :
    tableRowsIn (groupRows (rows.map (fun p => encodeRow f p.1 p.2))) = rows.map (fun p => encodeRow f p.1 p.2) := by
  rw [tableRowsIn_groupRows_any, tableRowsIn_rows]

/-- the `table:table` elements that `odsRows` numbers as sheets -/
def odsTables (r : Xml) : List Xml :=
  ((r.childrenTagged "office:body").flatMap (·.childrenTagged "office:spreadsheet")).flatMap (·.childrenTagged "table:table")

theorem odsRows_some (r : Xml) (k : Nat) :
    odsRows (some r) k =
      if (odsTables r).length < k || k < 1 then .formatError
      else match (odsTables r)[k - 1]? with
        | none => .formatError
        | some t =>
          match odsRowsOf (tableRowsIn t.children) with
          | none => .unsupported
          | some none => .formatError
          | some (some rows) => .rows rows := rfl

theorem odsRows_of_lt (r : Xml) (k : Nat) (h : (odsTables r).length < k) : odsRows (some r) k = .formatError := by
  simp only [odsRows_some, h, decide_true, Bool.true_or, if_true]

theorem odsRows_of_sheet (r : Xml) (k : Nat) (hk1 : 1 ≤ k) (hk2 : k ≤ (odsTables r).length) (rows : List (List (Option Str)))
    (hrows : odsRowsOf (tableRowsIn ((odsTables r)[k - 1]'(by omega)).children) = some (some rows)) :
    odsRows (some r) k = .rows rows := by
  rw [odsRows_some, if_neg (by simp; omega), List.getElem?_eq_getElem (by omega)]
  simp only [hrows]

theorem odsRows_congr (r r' : Xml) (h : Xml → Xml) (k : Nat) (ht : odsTables r' = (odsTables r).map h)
    (hrows : ∀ t ∈ odsTables r, odsRowsOf (tableRowsIn (h t).children) = odsRowsOf (tableRowsIn t.children)) :
    odsRows (some r') k = odsRows (some r) k := by
  rw [odsRows_some, odsRows_some, ht, List.length_map, List.getElem?_map]
  cases hg : (odsTables r)[k - 1]? with
  | none => rfl
  | some t => simp only [Option.map_some, hrows t (List.mem_of_getElem? hg)]

theorem childrenTagged_mapChildren (h : Xml → Xml) (htag : ∀ c, (h c).tag = c.tag) (x : Xml) (tag : String) :
    (mapChildren (List.map h) x).childrenTagged tag = (x.childrenTagged tag).map h := by
  rw [Xml.childrenTagged, mapChildren_children, List.filter_map]
  simp only [Function.comp_def, htag]; rfl

/-- a change `h` made to every element three levels down (`regroupDoc`, `coverDoc`) is a change made to every sheet -/
theorem odsTables_mapChildren (h : Xml → Xml) (htag : ∀ c, (h c).tag = c.tag) (r : Xml) :
    odsTables (mapChildren (List.map (mapChildren (List.map (mapChildren (List.map h))))) r) = (odsTables r).map h := by
  simp only [odsTables, childrenTagged_mapChildren _ (mapChildren_tag _), childrenTagged_mapChildren _ htag, List.flatMap_map,
    List.map_flatMap, List.flatMap_assoc]

/-- **row containers change nothing, in any document**: what is read from a sheet whose children were wrapped by `groupRows`
is what was read before -/
theorem odsRows_regroupDoc (r : Xml) (k : Nat) : odsRows (some (regroupDoc r)) k = odsRows (some r) k :=
  odsRows_congr r _ _ k (odsTables_mapChildren _ (mapChildren_tag _) r) fun t _ => by
    rw [mapChildren_children, tableRowsIn_groupRows_any]

/-- the rows of every sheet are children of the table itself and hold nothing but cells: what `encodeDoc` writes, and what
`coverDoc` expects (it turns every second child of every child of a table into a covered cell, whatever it was) -/
def PlainRows (r : Xml) : Prop :=
  ∀ t ∈ odsTables r, ∀ row ∈ t.children, row.tag = "table:table-row" ∧ ∀ c ∈ row.children, c.isCell

theorem odsRows_coverDoc (r : Xml) (hr : PlainRows r) (k : Nat) : odsRows (some (coverDoc r)) k = odsRows (some r) k :=
  odsRows_congr r _ _ k (odsTables_mapChildren _ (mapChildren_tag _) r) fun t ht => by
    rw [mapChildren_children,
      tableRowsIn_of_rows _ (List.forall_mem_map.2 fun x hx => (mapChildren_tag ..).trans (hr t ht x hx).1),
      tableRowsIn_of_rows _ fun x hx => (hr t ht x hx).1,
      odsRowsOf_congr _ t.children (by
        rw [List.map_map]; exact List.map_congr_left fun x hx => odsRow_coverCells x (hr t ht x hx).2)]

theorem odsTables_encodeDoc (f : OdsFeatures) (d : OdsDoc) :
    odsTables (encodeDoc f d) = d.zipIdx.map (fun p => encodeSheet f ("Sheet" ++ toString (p.2 + 1)) p.1) := by
  simp only [odsTables, encodeDoc, Xml.childrenTagged, Xml.children, Xml.tag, List.filter_cons, beq_self_eq_true, if_true,
    List.filter_nil, List.flatMap_cons, List.flatMap_nil, List.append_nil]
  exact filter_tag_map _ "table:table" _ (fun a => rfl)

/-- **What is read from an encoded document, whatever the encoding.**  Without row runs the rows of the sheet; with row runs
one row for every run of equal rows, since the reader does not expand `table:number-rows-repeated`. -/
theorem odsRows_encodeDoc (f : OdsFeatures) (d : OdsDoc) (k : Nat) (hk1 : 1 ≤ k) (hk2 : k ≤ d.length)
    (hsmall : ∀ r ∈ d[k - 1]'(by omega), r.length < 10 ^ maxStrDigits)
    (hcells : ∀ r ∈ d[k - 1]'(by omega), ∀ t ∈ r, t.length < 10 ^ maxStrDigits) :
    odsRows (some (encodeDoc f d)) k =
      .rows ((if f.rowRuns then (runs (d[k - 1]'(by omega))).map (·.1) else d[k - 1]'(by omega)).map (·.map some)) := by
  refine odsRows_of_sheet _ k hk1 (by simpa [odsTables_encodeDoc] using hk2) _ ?_
  simp only [odsTables_encodeDoc, List.getElem_map, List.getElem_zipIdx, encodeSheet, Xml.children]
  split
  · rw [tableRowsIn_rows, odsRowsOf_encodeRows f _ (fun p hp => hsmall _ (runs_fst_mem _ p hp))
      (fun p hp => hcells _ (runs_fst_mem _ p hp)), List.map_map]; rfl
  · rw [tableRowsIn_of_rows _ (List.forall_mem_map.2 fun _ _ => rfl), odsRowsOf_encoded f _ hsmall hcells]

theorem plainRows_encodeDoc (f : OdsFeatures) (d : OdsDoc) : PlainRows (encodeDoc f d) := by
  rw [PlainRows, odsTables_encodeDoc]
  refine List.forall_mem_map.2 fun p _ => ?_
  simp only [encodeSheet]
  split
  · exact List.forall_mem_map.2 fun r _ => ⟨rfl, encodeRow_cells f r.1 r.2⟩
  · exact List.forall_mem_map.2 fun r _ => ⟨rfl, encodeRow_cells f r 1⟩

end Cutplace
