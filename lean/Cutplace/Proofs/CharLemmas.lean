import Cutplace.Model.Py
/-
The character classes of `Model/Py` as ranges of code points, and `strip` as `dropWhile` from both
ends: that one class excludes or includes another is then linear arithmetic, and what `strip` does
follows from the lemmas core has about `dropWhile` and two it lacks (`isEmpty_dropWhile`, `all_dropWhile`).
-/
namespace Cutplace

theorem isAsciiDigit_iff {c : Char} : isAsciiDigit c = true ↔ 48 ≤ c.toNat ∧ c.toNat ≤ 57 := by
  simp [isAsciiDigit, Char.le_def, UInt32.le_iff_toNat_le]

theorem isAsciiLetter_iff {c : Char} :
    isAsciiLetter c = true ↔ (97 ≤ c.toNat ∧ c.toNat ≤ 122) ∨ (65 ≤ c.toNat ∧ c.toNat ≤ 90) := by
  simp [isAsciiLetter, Char.le_def, UInt32.le_iff_toNat_le]

theorem isHexDigit_iff {c : Char} :
    isHexDigit c = true ↔ (48 ≤ c.toNat ∧ c.toNat ≤ 57) ∨ (97 ≤ c.toNat ∧ c.toNat ≤ 102) ∨ (65 ≤ c.toNat ∧ c.toNat ≤ 70) := by
  simp [isHexDigit, isAsciiDigit, Char.le_def, UInt32.le_iff_toNat_le, or_assoc]

/-- 33 to 132: the code points between the blank U+0020 and the next white space, U+0085 -/
theorem not_isPySpace_of_toNat {c : Char} (h : 33 ≤ c.toNat ∧ c.toNat ≤ 132) : isPySpace c = false := by
  simp [isPySpace]; omega

theorem ne_of_class {p : Char → Bool} {c d : Char} (hc : p c = true) (hd : p d = false) : c ≠ d := by
  rintro rfl; rw [hc] at hd; cases hd

theorem letter_not_digit {c : Char} (h : isAsciiLetter c = true) : isAsciiDigit c = false := by
  have := isAsciiLetter_iff.1 h
  rw [← Bool.not_eq_true, isAsciiDigit_iff]
  omega

theorem lstrip_eq_dropWhile (s : Str) : lstrip s = s.dropWhile isPySpace := by
  induction s with
  | nil => rfl
  | cons c cs ih => rw [lstrip, List.dropWhile_cons, ih]

theorem isEmpty_dropWhile {α : Type} (p : α → Bool) (l : List α) : (l.dropWhile p).isEmpty = l.all p := by
  induction l with
  | nil => rfl
  | cons x xs ih => cases h : p x <;> simp [h, ih]

theorem all_dropWhile {α : Type} (p : α → Bool) (l : List α) : (l.dropWhile p).all p = l.all p := by
  induction l with
  | nil => rfl
  | cons x xs ih => cases h : p x <;> simp [h, ih]

/-- a text is blank (`not text.strip()`) iff it consists of white space -/
theorem isEmpty_strip (s : Str) : (strip s).isEmpty = s.all isPySpace := by
  simp only [strip, rstrip, lstrip_eq_dropWhile, List.isEmpty_reverse, isEmpty_dropWhile, List.all_reverse, all_dropWhile]

theorem strip_cons {c : Char} (hc : isPySpace c = false) (r : Str) : strip (c :: r) = c :: rstrip r := by
  have : (r.reverse ++ [c]).dropWhile isPySpace = r.reverse.dropWhile isPySpace ++ [c] := by
    rw [List.dropWhile_append]; simp_all
  simp [strip, rstrip, lstrip_eq_dropWhile, hc, this]

theorem strip_eq_self {s : Str} (h1 : ∀ c ∈ s.head?, isPySpace c = false) (h2 : ∀ c ∈ s.getLast?, isPySpace c = false) :
    strip s = s := by
  have self : ∀ {t : Str}, (∀ c ∈ t.head?, isPySpace c = false) → t.dropWhile isPySpace = t := by
    intro t h
    cases t with
    | nil => rfl
    | cons c cs => simp [h c (by simp)]
  rw [strip, rstrip, lstrip_eq_dropWhile, lstrip_eq_dropWhile, self h1, self (by simpa using h2), List.reverse_reverse]

theorem strip_of_no_space (s : Str) (h : ∀ c ∈ s, isPySpace c = false) : strip s = s :=
  strip_eq_self (fun c hc => h c (List.mem_of_mem_head? hc)) (fun c hc => h c (List.mem_of_mem_getLast? hc))

theorem strip_all_blank (v : Str) (h : v.all (· == ' ') = true) : strip v = [] := by
  rw [← List.isEmpty_iff, isEmpty_strip, List.all_eq_true]
  intro c hc
  rw [beq_iff_eq.1 (List.all_eq_true.1 h c hc)]
  decide

end Cutplace
