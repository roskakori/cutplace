import Cutplace.Spec.Fixed
/-
C13 in two steps.  The reader's loop with its push-back register computes the grammar's deterministic parse `fixedParse`: reading a
row is `takeRow` (`readFields_eq_takeRow`), skipping a delimiter is `takeDelim` (`skipDelimiter_view`), so `fixedLoop_eq_parse`.
And `fixedParse` is sound and complete for the grammar `Parses`, because `takeRow` and `takeDelim` are for a row and a delimiter.
-/
namespace Cutplace
open Cutplace.Spec

theorem takeRow_sound (ws : List Nat) (s : Str) (r : List Str) (rest : Str)
    (h : takeRow ws s = some (r, rest)) : r.map List.length = ws ∧ s = r.flatten ++ rest := by
  fun_induction takeRow ws s generalizing r with
  | case1 s => cases h; exact ⟨rfl, rfl⟩
  | case2 | case4 => cases h
  | case3 w ws s hlen r' rest' hr ih =>
    cases h
    obtain ⟨h1, h2⟩ := ih r' hr
    refine ⟨?_, ?_⟩
    · rw [List.map_cons, h1, List.length_take, Nat.min_eq_left (Nat.le_of_not_lt hlen)]
    · rw [List.flatten_cons, List.append_assoc, ← h2, List.take_append_drop]

theorem takeRow_complete (ws : List Nat) (r : List Str) (rest : Str) (h : r.map List.length = ws) :
    takeRow ws (r.flatten ++ rest) = some (r, rest) := by
  subst h
  induction r with
  | nil => rfl
  | cons x xs ih => simp [takeRow, ih]

theorem rowOk_ne_nil {ws : List Nat} {row : List Str} (hne : ws ≠ []) (h : RowOk ws row) : row ≠ [] :=
  fun e => hne (by rw [← h, e]; rfl)

theorem rowOk_flatten_ne_nil (ws : List Nat) (row : List Str) (hne : ws ≠ []) (hpos : ∀ w ∈ ws, 1 ≤ w)
    (h : RowOk ws row) : row.flatten ≠ [] := by
  obtain ⟨x, xs, rfl⟩ := List.exists_cons_of_ne_nil (rowOk_ne_nil hne h)
  have hx : 1 ≤ x.length := hpos _ (h ▸ (List.mem_cons_self : x.length ∈ (x :: xs).map List.length))
  intro hf
  rw [List.flatten_cons, List.append_eq_nil_iff] at hf
  rw [hf.1] at hx
  cases hx

theorem takeRow_rest_shorter (ws : List Nat) (s : Str) (r : List Str) (rest : Str)
    (hne : ws ≠ []) (hpos : ∀ w ∈ ws, 1 ≤ w) (h : takeRow ws s = some (r, rest)) :
    rest.length < s.length := by
  obtain ⟨h1, rfl⟩ := takeRow_sound ws s r rest h
  have := List.length_pos_iff.2 (rowOk_flatten_ne_nil ws r hne hpos h1)
  rw [List.length_append]; omega

theorem takeDelim_sound (ld : LineDelim) (rest rest2 : Str) (h : takeDelim ld rest = some rest2) :
    ∃ d, rest = d ++ rest2 ∧ DelimOk ld d rest2 := by
  revert h
  fun_cases takeDelim ld rest with
  | case1 s => intro h; cases h; exact ⟨[], rfl, rfl⟩
  | case2 r => intro h; cases h; exact ⟨['\n'], rfl, rfl⟩
  | case3 r => intro h; cases h; exact ⟨['\r'], rfl, rfl⟩
  | case4 r => intro h; cases h; exact ⟨['\r', '\n'], rfl, rfl⟩
  | case5 r => intro h; cases h; exact ⟨['\n'], rfl, .inl rfl⟩
  | case6 r => intro h; cases h; exact ⟨['\r', '\n'], rfl, .inr (.inl rfl)⟩
  | case7 r hnl =>
    -- a CR alone: the match before this one has ruled out a following LF
    intro h; cases h
    refine ⟨['\r'], rfl, .inr (.inr ⟨rfl, ?_⟩)⟩
    cases rest2 with
    | nil => simp
    | cons c cs => intro hc; simp at hc; exact hnl cs (hc ▸ rfl)
  | case8 => intro h; cases h

theorem takeDelim_complete (ld : LineDelim) (d rest : Str) (h : DelimOk ld d rest) :
    takeDelim ld (d ++ rest) = some rest := by
  cases ld with
  | any =>
    rcases h with rfl | rfl | ⟨rfl, hh⟩
    · rfl
    · rfl
    · cases rest with
      | nil => rfl
      | cons c cs => simp [takeDelim, show c ≠ '\n' by simpa using hh]
  | _ => cases h; rfl

theorem takeDelim_length (ld : LineDelim) (s r : Str) (h : takeDelim ld s = some r) : r.length ≤ s.length := by
  obtain ⟨d, rfl, -⟩ := takeDelim_sound ld s r h
  rw [List.length_append]
  exact Nat.le_add_left ..

/-- a pushed-back character behaves exactly like a character still in the stream -/
theorem readFields_unread (ws : List Nat) (c : Char) (s : Str) (idx : Nat) (acc : List Str)
    (hne : ws ≠ []) (hpos : ∀ w ∈ ws, 1 ≤ w) :
    readFields ws (some c) s idx acc = readFields ws Option.none (c :: s) idx acc := by
  obtain ⟨w, ws', rfl⟩ := List.exists_cons_of_ne_nil hne
  obtain ⟨k, rfl⟩ : ∃ k, w = k + 1 := ⟨w - 1, by have := hpos w (by simp); omega⟩
  cases k <;> simp [readFields, readN]

theorem readFields_nil_eof (ws : List Nat) : readFields ws Option.none [] 0 [] = .eof := by
  induction ws with
  | nil => rfl
  | cons w ws ih => simpa [readFields, readN] using ih

/-- reading one row from the stream is `takeRow` (for a stream that is not at its end, or when
some field of the row has already been read; `hne`: the row is not empty, so the answer is not `.eof`) -/
theorem readFields_eq_takeRow (ws : List Nat) (s : Str) (idx : Nat) (acc : List Str)
    (hpos : ∀ w ∈ ws, 1 ≤ w) (h : idx > 0 ∨ s ≠ []) (hne : acc ≠ [] ∨ ws ≠ []) :
    readFields ws Option.none s idx acc =
      (match takeRow ws s with
       | some (r, rest) => .row (acc ++ r) rest
       | none => .error) := by
  induction ws generalizing s idx acc with
  | nil => simpa [readFields, takeRow] using hne
  | cons w ws ih =>
    have hw := hpos w (by simp)
    rw [readFields, takeRow]
    simp only [readN, List.length_take, beq_iff_eq]
    by_cases hlen : s.length < w
    · -- a short read: nothing at all (then some field has been read before) or too little
      have h0 : s.length = 0 → idx > 0 := fun h0 => h.resolve_right (by simp [List.length_eq_zero_iff.1 h0])
      rw [if_pos hlen, Nat.min_eq_right (Nat.le_of_lt hlen)]
      split
      · rw [if_pos (h0 ‹_›)]
      · rw [if_neg (Nat.ne_of_lt hlen)]
    · rw [if_neg hlen, Nat.min_eq_left (Nat.le_of_not_lt hlen), if_neg (by omega), if_pos rfl,
        ih _ _ _ (fun w' hw' => hpos w' (by simp [hw'])) (.inl (by omega)) (.inl (by simp))]
      cases takeRow ws (s.drop w) with
      | none => rfl
      | some p => simp

/-- `_has_data_after_skipped_line_delimiter` on a stream that is not at its end, seen through the
grammar's `takeDelim`: a pushed-back character is a character of the remaining stream -/
theorem skipDelimiter_view (ld : LineDelim) (rest : Str) (h : rest ≠ []) :
    takeDelim ld rest = (match skipDelimiter ld rest with
      | .error => Option.none
      | .done => some []
      | .more r u => some (u.toList ++ r)) := by
  obtain ⟨c, cs, rfl⟩ := List.exists_cons_of_ne_nil h
  cases ld with
  | none => rfl
  | lf => by_cases hc : c = '\n' <;> simp [skipDelimiter, takeDelim, readN, hc]
  | cr => by_cases hc : c = '\r' <;> simp [skipDelimiter, takeDelim, readN, hc]
  | crlf =>
    by_cases hc : c = '\r'
    · rcases cs with _ | ⟨d, ds⟩
      · simp [skipDelimiter, takeDelim, readN]
      · by_cases hd : d = '\n' <;> simp [skipDelimiter, takeDelim, readN, hc, hd]
    · simp [skipDelimiter, takeDelim, readN, hc]
  | any =>
    by_cases hc : c = '\r'
    · rcases cs with _ | ⟨d, ds⟩
      · simp [skipDelimiter, takeDelim, readN, hc]
      · by_cases hd : d = '\n' <;> simp [skipDelimiter, takeDelim, readN, hc, hd]
    · by_cases hc2 : c = '\n' <;> simp [skipDelimiter, takeDelim, readN, hc, hc2]

theorem fixedParse_nil (ws : List Nat) (ld : LineDelim) (f : Nat) : fixedParse ws ld (f + 1) [] = some [] := rfl

theorem fixedParse_cons (ws : List Nat) (ld : LineDelim) (f : Nat) {s : Str} (hs : s ≠ []) :
    fixedParse ws ld (f + 1) s =
      match takeRow ws s with
      | none => none
      | some (row, rest) =>
        if rest = [] then some [row]
        else match takeDelim ld rest with
          | none => none
          | some rest2 => (fixedParse ws ld f rest2).map (row :: ·) := by
  rw [fixedParse, if_neg (by simpa using hs)]
  cases takeRow ws s with
  | none => rfl
  | some p => simp only [List.isEmpty_iff]; rfl

theorem fixedLoop_unread (ws : List Nat) (ld : LineDelim) (hne : ws ≠ []) (hpos : ∀ w ∈ ws, 1 ≤ w) (fuel : Nat) (u : Option Char)
    (s : Str) (acc : List (List Str)) : fixedLoop ws ld fuel u s acc = fixedLoop ws ld fuel Option.none (u.toList ++ s) acc := by
  cases fuel with
  | zero => rfl
  | succ f =>
    cases u with
    | none => rfl
    | some c => rw [fixedLoop, readFields_unread ws c s 0 [] hne hpos]; rfl

theorem fixedLoop_nil (ws : List Nat) (ld : LineDelim) (fuel : Nat) (acc : List (List Str)) :
    fixedLoop ws ld (fuel + 1) Option.none [] acc = some acc := by
  rw [fixedLoop, readFields_nil_eof]

theorem fixedLoop_eq_parse (ws : List Nat) (ld : LineDelim) (hne : ws ≠ []) (hpos : ∀ w ∈ ws, 1 ≤ w) :
    ∀ (fuel : Nat) (s : Str) (acc : List (List Str)), s.length < fuel →
      fixedLoop ws ld fuel Option.none s acc = (fixedParse ws ld fuel s).map (acc ++ ·) := by
  intro fuel
  induction fuel with
  | zero => intro s acc h; cases h
  | succ f ih =>
    intro s acc hlen
    by_cases hs : s = []
    · subst hs; rw [fixedLoop_nil, fixedParse_nil]; simp
    rw [fixedLoop, readFields_eq_takeRow ws s 0 [] hpos (.inr hs) (.inr hne), fixedParse_cons ws ld f hs]
    cases htr : takeRow ws s with
    | none => rfl
    | some p =>
      obtain ⟨r, rest⟩ := p
      have hshort := takeRow_rest_shorter ws s r rest hne hpos htr
      -- after a row the loop looks for a delimiter even at the end of the stream, the grammar does not
      obtain ⟨g, rfl⟩ : ∃ g, f = g + 1 := ⟨f - 1, by omega⟩
      simp only [List.nil_append]
      by_cases hre : rest = []
      · subst hre
        cases ld <;> simp [skipDelimiter, readN, fixedLoop_nil]
      · rw [if_neg hre, skipDelimiter_view ld rest hre]
        cases hsd : skipDelimiter ld rest with
        | error => rfl
        | done => simp [fixedParse_nil]
        | more r2 u2 =>
          have hl2 := takeDelim_length ld rest (u2.toList ++ r2) (by rw [skipDelimiter_view ld rest hre, hsd])
          simp only []
          rw [fixedLoop_unread ws ld hne hpos, ih _ _ (by omega)]
          simp [Function.comp_def]

/-- **Refinement.** The transcription of `fixed_rows` (with its push-back register) computes exactly
the grammar's deterministic parse, for every input, non-empty width list of positive widths and
every line-delimiter setting. -/
theorem fixedRows_eq_spec (ws : List Nat) (ld : LineDelim) (s : Str) (hne : ws ≠ []) (hpos : ∀ w ∈ ws, 1 ≤ w) :
    fixedRows ws ld s = fixedSpec ws ld s := by
  simpa [fixedRows, fixedSpec] using fixedLoop_eq_parse ws ld hne hpos (s.length + 2) s [] (by omega)

theorem parses_nil (ws : List Nat) (ld : LineDelim) (rows : List (List Str)) (hne : ws ≠ []) (hpos : ∀ w ∈ ws, 1 ≤ w)
    {s : Str} (h : Parses ws ld s rows) (hs : s = []) : rows = [] := by
  cases h with
  | nil => rfl
  | last row hr => exact absurd hs (rowOk_flatten_ne_nil ws row hne hpos hr)
  | cons row d rest rows' hr hd hp =>
    rw [List.append_assoc] at hs
    exact absurd (List.append_eq_nil_iff.1 hs).1 (rowOk_flatten_ne_nil ws row hne hpos hr)

theorem fixedParse_sound (ws : List Nat) (ld : LineDelim) (fuel : Nat) (s : Str) (rows : List (List Str))
    (h : fixedParse ws ld fuel s = some rows) : Parses ws ld s rows := by
  fun_induction fixedParse ws ld fuel s generalizing rows with
  | case1 | case3 | case5 => cases h
  | case2 f s hs => cases h; rw [List.isEmpty_iff.1 hs]; exact .nil
  | case4 f s hs row rest htr hre =>
    cases h
    obtain ⟨hr, rfl⟩ := takeRow_sound ws s row rest htr
    rw [List.isEmpty_iff.1 hre, List.append_nil]
    exact .last row hr
  | case6 f s hs row rest htr hre rest2 htd ih =>
    obtain ⟨rows', hrows', rfl⟩ := Option.map_eq_some_iff.1 h
    obtain ⟨hr, rfl⟩ := takeRow_sound ws s row rest htr
    obtain ⟨d, rfl, hd⟩ := takeDelim_sound ld rest rest2 htd
    rw [← List.append_assoc]
    exact .cons row d rest2 rows' hr hd (ih rows' hrows')

theorem fixedParse_complete (ws : List Nat) (ld : LineDelim) (hne : ws ≠ []) (hpos : ∀ w ∈ ws, 1 ≤ w)
    (s : Str) (rows : List (List Str)) (h : Parses ws ld s rows) :
    ∀ f, s.length ≤ f → fixedParse ws ld (f + 1) s = some rows := by
  induction h with
  | nil => intro f _; rfl
  | last row hr =>
    intro f _
    have htr := takeRow_complete ws row [] hr
    rw [List.append_nil] at htr
    rw [fixedParse_cons ws ld f (rowOk_flatten_ne_nil ws row hne hpos hr), htr]; rfl
  | cons row d rest rows' hr hd hp ih =>
    intro f hf
    have hrow := rowOk_flatten_ne_nil ws row hne hpos hr
    rw [List.append_assoc]
    rw [fixedParse_cons ws ld f (fun h => hrow (List.append_eq_nil_iff.1 h).1), takeRow_complete ws row (d ++ rest) hr]
    simp only []
    split
    · -- no delimiter and nothing behind it: the row was the last
      obtain ⟨rfl, rfl⟩ := List.append_eq_nil_iff.1 ‹d ++ rest = []›
      rw [parses_nil ws ld rows' hne hpos hp rfl]
    · have := List.length_pos_iff.2 hrow
      simp only [List.length_append] at hf
      obtain ⟨g, rfl⟩ : ∃ g, f = g + 1 := ⟨f - 1, by omega⟩
      simp only [takeDelim_complete ld d rest hd, ih g (by omega)]; rfl
end Cutplace
