import Cutplace.Model.Regex
/-
C02 (Pattern, RegEx): the position-set matcher of the model computes the declarative semantics of regular expressions,
and the expression `fnmatch.translate` builds for a glob denotes the glob.
-/
namespace Cutplace

inductive StarR (R : Nat → Nat → Prop) : Nat → Nat → Prop
  | refl (i : Nat) : StarR R i i
  | step {i k j : Nat} : R i k → StarR R k j → StarR R i j

def IterR (R : Nat → Nat → Prop) : Nat → Nat → Nat → Prop
  | 0, i, j => i = j
  | n + 1, i, j => ∃ k, R i k ∧ IterR R n k j

/-- the declarative meaning of a regular expression: `r` matches the text between positions `i` and `j` -/
def Rx.Matches (s : Array Char) : Rx → Nat → Nat → Prop
  | .empty, i, j => i = j
  | .chr c, i, j => ∃ h : i < s.size, foldCase s[i] = foldCase c ∧ j = i + 1
  | .any dotAll, i, j => ∃ h : i < s.size, (dotAll = true ∨ s[i] ≠ '\n') ∧ j = i + 1
  | .cls neg rs, i, j => ∃ h : i < s.size, clsMatch neg rs s[i] = true ∧ j = i + 1
  | .seq a b, i, j => ∃ k, a.Matches s i k ∧ b.Matches s k j
  | .alt a b, i, j => a.Matches s i j ∨ b.Matches s i j
  | .star a, i, j => StarR (a.Matches s) i j
  | .rep a lo hi, i, j => ∃ n, lo ≤ n ∧ (match hi with | none => True | some h => n ≤ max lo h) ∧ IterR (a.Matches s) n i j
  | .bol, i, j => i = j ∧ (i = 0 ∨ ∃ h : i - 1 < s.size, s[i - 1] = '\n')
  | .eol, i, j => i = j ∧ (i = s.size ∨ ∃ h : i < s.size, s[i] = '\n')
  | .eos, i, j => i = j ∧ i = s.size

theorem mem_dedup (l : List Nat) (x : Nat) : x ∈ dedup l ↔ x ∈ l := by
  unfold dedup; exact List.mem_eraseDups

/-- what `ends` has to satisfy for one expression -/
def EndsSpec (s : Array Char) (r : Rx) : Prop :=
  ∀ (ps : List Nat), (∀ p ∈ ps, p ≤ s.size) → ∀ (j : Nat), j ∈ r.ends s ps ↔ ∃ i ∈ ps, r.Matches s i j

theorem StarR.snoc {R : Nat → Nat → Prop} {i k j : Nat} (h : StarR R i k) (hk : R k j) : StarR R i j := by
  induction h with
  | refl i => exact .step hk (.refl _)
  | step h1 _ ih => exact .step h1 (ih hk)

theorem starR_iff_iter {R : Nat → Nat → Prop} (i j : Nat) : StarR R i j ↔ ∃ m, IterR R m i j := by
  constructor
  · intro h
    induction h with
    | refl i => exact ⟨0, rfl⟩
    | step h1 _ ih => obtain ⟨m, hm⟩ := ih; exact ⟨m + 1, _, h1, hm⟩
  · rintro ⟨m, hm⟩
    induction m generalizing i with
    | zero => cases hm; exact .refl _
    | succ m ih => obtain ⟨k, hk, h⟩ := hm; exact .step hk (ih k h)

/-- "`A`, then `B`, then `C`" bracketed either way -/
theorem exists_comp {α β : Type} {A : α → Prop} {B : α → β → Prop} {C : β → Prop} :
    (∃ k, (∃ x, A x ∧ B x k) ∧ C k) ↔ ∃ x, A x ∧ ∃ k, B x k ∧ C k :=
  ⟨fun ⟨k, ⟨x, hx, h1⟩, h2⟩ => ⟨x, hx, k, h1, h2⟩, fun ⟨x, hx, k, h1, h2⟩ => ⟨k, ⟨x, hx, h1⟩, h2⟩⟩

theorem IterR.add {R : Nat → Nat → Prop} (m n i j : Nat) : IterR R (m + n) i j ↔ ∃ k, IterR R m i k ∧ IterR R n k j := by
  induction m generalizing i with
  | zero =>
    rw [Nat.zero_add]
    exact ⟨fun h => ⟨i, rfl, h⟩, fun ⟨k, e, h⟩ => e ▸ h⟩
  | succ m ih =>
    rw [Nat.add_right_comm]
    show (∃ x, R i x ∧ IterR R (m + n) x j) ↔ _
    simp only [ih]
    exact exists_comp.symm

theorem IterR.append {R : Nat → Nat → Prop} : ∀ (m n i k j : Nat), IterR R m i k → IterR R n k j → IterR R (m + n) i j :=
  fun m n i k j h1 h2 => (IterR.add m n i j).mpr ⟨k, h1, h2⟩

/-- at least `lo` rounds, the number allowed by `D`: `lo` rounds first, then the allowed rest -/
theorem IterR.exists_ge {R : Nat → Nat → Prop} (D : Nat → Prop) (lo i j : Nat) :
    (∃ n, lo ≤ n ∧ D n ∧ IterR R n i j) ↔ ∃ b, IterR R lo i b ∧ ∃ m, D (lo + m) ∧ IterR R m b j := by
  constructor
  · rintro ⟨n, hn, hd, hit⟩
    obtain ⟨m, rfl⟩ := Nat.exists_eq_add_of_le hn
    obtain ⟨b, h1, h2⟩ := (IterR.add lo m i j).mp hit
    exact ⟨b, h1, m, hd, h2⟩
  · rintro ⟨b, h1, m, hd, h2⟩
    exact ⟨lo + m, Nat.le_add_right _ _, hd, IterR.append lo m i b j h1 h2⟩

/-- from `i` forward to `j`, not out of a text of length `n`, and from beyond the text nowhere: what a match does -/
def Fwd (n i j : Nat) : Prop := i ≤ j ∧ (i ≤ n → j ≤ n) ∧ (n < i → j = i)

theorem Fwd.refl {n : Nat} (i : Nat) : Fwd n i i := ⟨Nat.le_refl i, id, fun _ => rfl⟩

theorem Fwd.trans {n i k j : Nat} (h1 : Fwd n i k) (h2 : Fwd n k j) : Fwd n i j :=
  ⟨Nat.le_trans h1.1 h2.1, fun h => h2.2.1 (h1.2.1 h), fun h => by rw [← h1.2.2 h, h2.2.2 (h1.2.2 h ▸ h)]⟩

/-- so what is reached from a member of `acc` and is not in `acc` lies inside the text -/
theorem Fwd.le_of_not_mem {n i j : Nat} {acc : List Nat} (h : Fwd n i j) (hi : i ∈ acc) (hj : j ∉ acc) : j ≤ n :=
  h.2.1 (Nat.le_of_not_lt fun hlt => hj (h.2.2 hlt ▸ hi))

theorem StarR.bound {R : Nat → Nat → Prop} {n : Nat} (hR : ∀ i j, R i j → Fwd n i j) {i j : Nat} (h : StarR R i j) : Fwd n i j := by
  induction h with
  | refl i => exact .refl i
  | step h1 _ ih => exact (hR _ _ h1).trans ih

theorem Rx.Matches.bound (s : Array Char) : ∀ (r : Rx) (i j : Nat), r.Matches s i j → Fwd s.size i j := by
  intro r
  induction r with
  | empty => intro i j h; exact h ▸ .refl i
  | chr | any | cls => intro i j ⟨h, _, hj⟩; exact hj ▸ ⟨Nat.le_succ i, fun _ => h, fun hn => absurd h (Nat.lt_asymm hn)⟩
  | seq a b iha ihb => intro i j ⟨k, h1, h2⟩; exact (iha i k h1).trans (ihb k j h2)
  | alt a b iha ihb => intro i j h; exact h.elim (iha i j) (ihb i j)
  | star a iha => intro i j h; exact StarR.bound iha h
  | rep a lo hi iha => intro i j ⟨n, _, _, h⟩; exact StarR.bound iha ((starR_iff_iter i j).mpr ⟨n, h⟩)
  | bol | eol | eos => intro i j ⟨h, _⟩; exact h ▸ .refl i

theorem EndsSpec.bounded {s : Array Char} {r : Rx} (h : EndsSpec s r) (ps : List Nat) (hps : ∀ p ∈ ps, p ≤ s.size) :
    ∀ q ∈ r.ends s ps, q ≤ s.size :=
  fun q hq => let ⟨i, hi, hm⟩ := (h ps hps q).mp hq; (Rx.Matches.bound s r i q hm).2.1 (hps i hi)

/-- if `qs` is the image of `ps` under `R`, what `qs` reaches is what `ps` reaches through `R` -/
theorem exists_mem_comp {ps qs : List Nat} {R : Nat → Nat → Prop} {S : Nat → Prop} (h : ∀ k, k ∈ qs ↔ ∃ i ∈ ps, R i k) :
    (∃ k ∈ qs, S k) ↔ ∃ i ∈ ps, ∃ k, R i k ∧ S k := by
  simp only [h]
  exact exists_comp

/-- the end positions of an expression that consumes one character passing `test` -/
theorem mem_ends_char (s : Array Char) (test : Char → Bool) (ps : List Nat) (j : Nat) :
    j ∈ ps.filterMap (fun p => if h : p < s.size then (if test s[p] then some (p + 1) else none) else none) ↔
      ∃ i ∈ ps, ∃ h : i < s.size, test s[i] = true ∧ j = i + 1 := by
  simp only [List.mem_filterMap]
  refine exists_congr fun p => and_congr_right fun _ => ?_
  by_cases h : p < s.size
  · simp [h, eq_comm (a := j)]
  · simp [h]

/-- the end positions of an expression that consumes nothing and tests the position -/
theorem mem_ends_pos (test : Nat → Bool) (ps : List Nat) (j : Nat) :
    j ∈ ps.filter test ↔ ∃ i ∈ ps, i = j ∧ test i = true := by
  rw [List.mem_filter]
  exact ⟨fun ⟨h, t⟩ => ⟨j, h, rfl, t⟩, fun ⟨i, hi, e, t⟩ => e ▸ ⟨hi, t⟩⟩

theorem charAt_eq_iff (s : Array Char) (k : Nat) (c : Char) :
    (if h : k < s.size then s[k] == c else false) = true ↔ ∃ h : k < s.size, s[k] = c := by
  simp

/-- **One round of a worklist closure.**  `acc` holds the frontier `fr` and every successor of its other members; `next` is
what the frontier reaches in one step and `acc` lacks.  Then `acc ++ next` with frontier `next` is such a pair again, and
it reaches what `acc` with `fr` reached. -/
theorem closure_round {R : Nat → Nat → Prop} {acc fr next : List Nat} (hfr : ∀ p ∈ fr, p ∈ acc)
    (hcl : ∀ p ∈ acc, ∀ q, R p q → q ∈ acc ∨ p ∈ fr) (hnext : ∀ q, q ∈ next ↔ (∃ p ∈ fr, R p q) ∧ q ∉ acc) :
    (∀ p ∈ acc ++ next, ∀ q, R p q → q ∈ acc ++ next ∨ p ∈ next) ∧
    ∀ j, (j ∈ acc ∨ ∃ i ∈ fr, StarR R i j) ↔ (j ∈ acc ++ next ∨ ∃ k ∈ next, StarR R k j) := by
  have step : ∀ p ∈ acc, ∀ q, R p q → q ∈ acc ∨ q ∈ next := fun p hp q hq =>
    if hqa : q ∈ acc then .inl hqa else .inr ((hnext q).mpr ⟨⟨p, (hcl p hp q hq).resolve_left hqa, hq⟩, hqa⟩)
  -- a path that starts in `acc` stays there or leaves it through `next`
  have exit : ∀ {i j}, StarR R i j → i ∈ acc → j ∈ acc ∨ ∃ k ∈ next, StarR R k j := by
    intro i j h
    induction h with
    | refl i => exact .inl
    | step h1 h2 ih => exact fun hi => (step _ hi _ h1).elim ih fun hk => .inr ⟨_, hk, h2⟩
  -- what is new comes from the frontier
  have back : ∀ {j}, ∀ k ∈ next, StarR R k j → ∃ i ∈ fr, StarR R i j := fun k hk hst =>
    let ⟨⟨p, hp, h⟩, _⟩ := (hnext k).mp hk
    ⟨p, hp, .step h hst⟩
  refine ⟨fun p hp q hq => (List.mem_append.mp hp).imp (fun h => List.mem_append.mpr (step p h q hq)) id, fun j => ⟨?_, ?_⟩⟩
  · rintro (h | ⟨i, hi, hst⟩)
    · exact .inl (List.mem_append_left _ h)
    · exact (exit hst (hfr i hi)).imp (List.mem_append_left _) id
  · rintro (h | ⟨k, hk, hst⟩)
    · exact (List.mem_append.mp h).imp id fun h => back j h (.refl j)
    · exact .inr (back k hk hst)

/-- `upto k` adds the next `k` rounds of `times` to `acc` -/
theorem upto_spec (s : Array Char) (a : Rx) : ∀ (k : Nat) (acc cur : List Nat) (j : Nat),
    j ∈ Rx.ends.upto s a k acc cur ↔ j ∈ acc ∨ ∃ m, m < k ∧ j ∈ Rx.ends.times s a (m + 1) cur := by
  intro k
  induction k with
  | zero => intro acc cur j; simp [Rx.ends.upto]
  | succ k ih =>
    intro acc cur j
    rw [Rx.ends.upto, ih, mem_dedup, List.mem_append, or_assoc, Nat.exists_lt_succ_left]
    simp only [Rx.ends.times]

section
-- the loops over an expression `a` whose `ends` is the image under "`a` matches", from any start positions
variable {s : Array Char} {a : Rx} (ha : ∀ ps j, j ∈ a.ends s ps ↔ ∃ i ∈ ps, a.Matches s i j)
include ha

/-- **The closure loop of `star`** returns `acc` and whatever the frontier reaches, provided `acc` and the frontier are as in
`closure_round` and the fuel covers a list `cand` with all positions of the text that `acc` lacks.  A round that goes on takes
one of them away (what is new lies inside the text, `Fwd.le_of_not_mem`), so the fuel of the model, one per position, is never
used up. -/
theorem loop_spec : ∀ (fuel : Nat) (acc fr cand : List Nat),
    (∀ p ∈ fr, p ∈ acc) → (∀ p ∈ acc, ∀ q, a.Matches s p q → q ∈ acc ∨ p ∈ fr) →
    (∀ x ≤ s.size, x ∉ acc → x ∈ cand) → cand.length ≤ fuel →
    ∀ j, j ∈ Rx.ends.loop s a fuel acc fr ↔ j ∈ acc ∨ ∃ i ∈ fr, StarR (a.Matches s) i j := by
  intro fuel
  induction fuel with
  | zero =>
    -- nothing is lacking
    intro acc fr cand hfr _ hcand hlen j
    rw [Rx.ends.loop]
    refine ⟨.inl, fun h => h.elim id fun ⟨i, hi, hst⟩ => Decidable.byContradiction fun hj => ?_⟩
    have := hcand j ((StarR.bound (Rx.Matches.bound s a) hst).le_of_not_mem (hfr i hi) hj) hj
    rw [List.eq_nil_of_length_eq_zero (Nat.le_zero.mp hlen)] at this
    cases this
  | succ fuel ih =>
    intro acc fr cand hfr hcl hcand hlen j
    rw [Rx.ends.loop]
    generalize hN : dedup _ = next
    have hnext : ∀ q, q ∈ next ↔ (∃ p ∈ fr, a.Matches s p q) ∧ q ∉ acc := by
      intro q
      rw [← hN, mem_dedup, List.mem_filter, ha fr q]
      simp
    obtain ⟨hcl', hreach⟩ := closure_round hfr hcl hnext
    rw [hreach]
    split
    · rename_i he
      simp [List.isEmpty_iff.mp he]
    · rename_i he
      obtain ⟨x, hx⟩ := List.exists_mem_of_ne_nil next (by simpa using he)
      have hbd : ∀ k ∈ next, k ≤ s.size := fun k hk =>
        let ⟨⟨p, hp, hm⟩, hka⟩ := (hnext k).mp hk
        (Rx.Matches.bound s a p k hm).le_of_not_mem (hfr p hp) hka
      refine ih (acc ++ next) next (cand.erase x) (fun k hk => List.mem_append_right _ hk) hcl' ?_ ?_ j
      · intro y hy hya
        have : y ≠ x := fun e => hya (e ▸ List.mem_append_right _ hx)
        exact (List.mem_erase_of_ne this).mpr (hcand y hy fun h => hya (List.mem_append_left _ h))
      · rw [List.length_erase_of_mem (hcand x (hbd x hx) ((hnext x).mp hx).2)]
        omega

theorem ends_star (ps : List Nat) (j : Nat) : j ∈ (Rx.star a).ends s ps ↔ ∃ i ∈ ps, StarR (a.Matches s) i j := by
  -- `eq_7`: the `.star` arm of `Rx.ends`
  rw [Rx.ends.eq_7, loop_spec ha (s.size + 1) _ _ (List.range (s.size + 1))]
  · simp only [mem_dedup]
    exact ⟨fun h => h.elim (fun h => ⟨j, h, .refl j⟩) id, .inr⟩
  · exact fun p hp => hp
  · exact fun p hp _ _ => .inr hp
  · exact fun x hx _ => List.mem_range.mpr (Nat.lt_succ_of_le hx)
  · exact Nat.le_of_eq List.length_range

theorem times_spec : ∀ (k : Nat) (qs : List Nat) (j : Nat),
    j ∈ Rx.ends.times s a k qs ↔ ∃ i ∈ qs, IterR (a.Matches s) k i j := by
  intro k
  induction k with
  | zero =>
    intro qs j
    rw [Rx.ends.times]
    exact exists_eq_right.symm
  | succ k ih =>
    intro qs j
    rw [Rx.ends.times, ih]
    exact exists_mem_comp fun k => (mem_dedup _ k).trans (ha qs k)

theorem upto_self (k : Nat) (cur : List Nat) (j : Nat) :
    j ∈ Rx.ends.upto s a k cur cur ↔ ∃ b ∈ cur, ∃ m, m ≤ k ∧ IterR (a.Matches s) m b j := by
  simp only [upto_spec, times_spec ha]
  constructor
  · rintro (h | ⟨m, hm, b, hb, hit⟩)
    · exact ⟨j, h, 0, Nat.zero_le _, rfl⟩
    · exact ⟨b, hb, m + 1, hm, hit⟩
  · rintro ⟨b, hb, m, hm, hit⟩
    cases m with
    | zero => exact .inl (hit ▸ hb)
    | succ m => exact .inr ⟨m, hm, b, hb, hit⟩

theorem ends_rep (lo : Nat) (hi : Option Nat) (ps : List Nat) (j : Nat) :
    j ∈ (Rx.rep a lo hi).ends s ps ↔ ∃ i ∈ ps, (Rx.rep a lo hi).Matches s i j := by
  have hbase := times_spec ha lo ps
  cases hi with
  | none =>
    -- `eq_8`, `eq_9`: the arms `.rep _ _ none` and `.rep _ _ (some h)`
    rw [Rx.ends.eq_8, ends_star ha, exists_mem_comp hbase]
    simp only [Rx.Matches, IterR.exists_ge fun _ => True]
    simp only [starR_iff_iter, true_and]
  | some h =>
    rw [Rx.ends.eq_9, upto_self ha, exists_mem_comp hbase]
    simp only [Rx.Matches, IterR.exists_ge (· ≤ max lo h)]
    simp only [show ∀ m, lo + m ≤ max lo h ↔ m ≤ h - lo from fun m => by omega]

end

/-- **the position-set matcher computes the declarative semantics**: from any start positions `ps`, `ends` returns exactly the
positions `j` such that `r` matches the text between some `i ∈ ps` and `j`.  Start positions beyond the text are no exception:
the index tests of the atoms fail there, as `Rx.Matches` does, and only the closure loop of `star` counts positions - those it
adds, which lie inside the text (`loop_spec`). -/
theorem mem_ends (s : Array Char) (r : Rx) : ∀ (ps : List Nat) (j : Nat), j ∈ r.ends s ps ↔ ∃ i ∈ ps, r.Matches s i j := by
  induction r with
  | empty => intro ps j; simp only [Rx.ends, Rx.Matches, exists_eq_right]
  | chr c =>
    intro ps j
    simp only [Rx.ends, Rx.Matches]
    rw [mem_ends_char s (fun x => foldCase x == foldCase c)]
    simp only [beq_iff_eq]
  | any d =>
    intro ps j
    simp only [Rx.ends, Rx.Matches]
    rw [mem_ends_char s (fun x => d || x != '\n')]
    simp only [Bool.or_eq_true, bne_iff_ne]
  | cls neg rs =>
    intro ps j
    simp only [Rx.ends, Rx.Matches]
    exact mem_ends_char s (clsMatch neg rs) ps j
  | seq a b iha ihb => intro ps j; rw [Rx.ends, ihb]; exact exists_mem_comp (iha ps)
  | alt a b iha ihb =>
    intro ps j
    simp only [Rx.ends, Rx.Matches, mem_dedup, List.mem_append, iha, ihb, and_or_left, exists_or]
  | star a iha => exact ends_star iha
  | rep a lo hi iha => exact ends_rep iha lo hi
  | bol | eol => intro ps j; simp only [Rx.ends, Rx.Matches, mem_ends_pos, Bool.or_eq_true, beq_iff_eq, charAt_eq_iff]
  | eos => intro ps j; simp only [Rx.ends, Rx.Matches, mem_ends_pos, beq_iff_eq]

theorem ends_spec (s : Array Char) : ∀ r : Rx, EndsSpec s r :=
  fun r ps _ j => mem_ends s r ps j

theorem matchPrefix_iff (r : Rx) (v : Str) : r.matchPrefix v = true ↔ ∃ j, r.Matches v.toArray 0 j := by
  simp only [Rx.matchPrefix, Bool.not_eq_true', List.isEmpty_eq_false_iff_exists_mem,
    mem_ends v.toArray r [0], List.mem_singleton, exists_eq_left]

/-- the declarative reading of `fnmatch` patterns (as far as the model goes): `*` any text, `?` any one character,
`[...]` one character of the class (read by the model's `globClass`, tested by its `clsMatch`, the functions `globToRx`
uses too), anything else itself (ignoring case, as cutplace compiles the pattern) - and the whole value has to be used up.  The fuel is that of `globToRx` (after a class the pattern goes on at a suffix that is
not structurally smaller); where it runs out `globToRx` returns `none`, so the `False` is never met. -/
def GlobSem : Nat → Str → Str → Prop
  | 0, _, _ => False
  | _, [], v => v = []
  | fuel + 1, c :: cs, v =>
    if c = '*' then ∃ k, k ≤ v.length ∧ GlobSem fuel cs (v.drop k)
    else if c = '?' then ∃ x v', v = x :: v' ∧ GlobSem fuel cs v'
    else if c = '[' then
      match globClass cs with
      | none => ∃ x v', v = x :: v' ∧ foldCase x = foldCase '[' ∧ GlobSem fuel cs v'
      | some (none, _) => False
      | some (some (neg, rs), rest) => ∃ x v', v = x :: v' ∧ clsMatch neg rs x = true ∧ GlobSem fuel rest v'
    else ∃ x v', v = x :: v' ∧ foldCase x = foldCase c ∧ GlobSem fuel cs v'

/-- `Q` is what `r` asks of the rest of a value: matched from any position, `r` reaches the end of the value and nothing else,
and does so iff `Q` holds of what was left -/
def Denotes (r : Rx) (Q : Str → Prop) : Prop :=
  ∀ (v : Str) (i j : Nat), i ≤ v.length → (r.Matches v.toArray i j ↔ j = v.length ∧ Q (v.drop i))

theorem denotes_eos : Denotes .eos (· = []) := by
  intro v i j hi
  show i = j ∧ i = v.length ↔ j = v.length ∧ v.drop i = []
  rw [List.drop_eq_nil_iff]
  omega

/-- an expression for one character satisfying `P`, then `r` -/
theorem Denotes.one {r1 r : Rx} {P : Char → Prop} {Q : Str → Prop}
    (h1 : ∀ (v : Str) (i k : Nat), r1.Matches v.toArray i k ↔ ∃ h : i < v.length, P v[i] ∧ k = i + 1) (hr : Denotes r Q) :
    Denotes (.seq r1 r) fun w => ∃ x w', w = x :: w' ∧ P x ∧ Q w' := by
  intro v i j hi
  constructor
  · rintro ⟨k, hk, hm⟩
    obtain ⟨hl, hp, rfl⟩ := (h1 v i k).mp hk
    obtain ⟨hj, hq⟩ := (hr v (i + 1) j hl).mp hm
    exact ⟨hj, v[i], _, List.drop_eq_getElem_cons hl, hp, hq⟩
  · rintro ⟨hj, x, w', hd, hp, hq⟩
    have hl : i < v.length := Nat.lt_of_not_le fun h => by simp [List.drop_eq_nil_of_le h] at hd
    cases (List.drop_eq_getElem_cons hl).symm.trans hd
    exact ⟨i + 1, (h1 v i _).mpr ⟨hl, hp, rfl⟩, (hr v (i + 1) j hl).mpr ⟨hj, hq⟩⟩

/-- `.*` under DOTALL reaches every later position of the text -/
theorem star_any_iff (s : Array Char) (i j : Nat) (hi : i ≤ s.size) :
    StarR ((Rx.any true).Matches s) i j ↔ i ≤ j ∧ j ≤ s.size := by
  constructor
  · intro h
    have := StarR.bound (Rx.Matches.bound s (.any true)) h
    exact ⟨this.1, this.2.1 hi⟩
  · rintro ⟨hij, hj⟩
    induction hij with
    | refl => exact .refl i
    | step _ ih => exact (ih (Nat.le_of_succ_le hj)).snoc ⟨hj, .inl rfl, rfl⟩

theorem Denotes.star_any {r : Rx} {Q : Str → Prop} (hr : Denotes r Q) :
    Denotes (.seq (.star (.any true)) r) fun w => ∃ k, k ≤ w.length ∧ Q (w.drop k) := by
  intro v i j hi
  show (∃ k, StarR ((Rx.any true).Matches _) i k ∧ r.Matches _ k j) ↔
    j = v.length ∧ ∃ d, d ≤ (v.drop i).length ∧ Q ((v.drop i).drop d)
  simp only [star_any_iff v.toArray i _ hi, List.size_toArray, List.drop_drop, List.length_drop]
  constructor
  · rintro ⟨k, ⟨hik, hk⟩, hm⟩
    obtain ⟨hj, hq⟩ := (hr v k j hk).mp hm
    exact ⟨hj, k - i, Nat.sub_le_sub_right hk i, by rwa [Nat.add_sub_cancel' hik]⟩
  · rintro ⟨hj, d, hd, hq⟩
    have hk := Nat.add_le_of_le_sub' hi hd
    exact ⟨i + d, ⟨Nat.le_add_right i d, hk⟩, (hr v (i + d) j hk).mpr ⟨hj, hq⟩⟩

/-- the expression `globToRx` builds denotes the glob: token by token, along the cases of `globToRx` -/
theorem glob_denotes (fuel : Nat) (pat : Str) (rx : Rx) (h : globToRx fuel pat = some rx) : Denotes rx (GlobSem fuel pat) := by
  fun_induction globToRx fuel pat generalizing rx with
  | case1 | case6 => cases h
  | case2 t ht =>
    cases h
    cases t with
    | zero => exact absurd rfl ht
    | succ t => exact denotes_eos
  | case3 fuel c cs hc ih =>
    obtain ⟨r, hr, rfl⟩ := Option.map_eq_some_iff.mp h
    simp only [GlobSem, ← beq_iff_eq (a := c), hc, if_true]
    exact (ih r hr).star_any
  | case4 fuel c cs h1 hc ih =>
    obtain ⟨r, hr, rfl⟩ := Option.map_eq_some_iff.mp h
    simp only [GlobSem, ← beq_iff_eq (a := c), h1, hc, if_true, if_false, Bool.false_eq_true]
    simpa using Denotes.one (P := fun x => true = true ∨ x ≠ '\n') (fun _ _ _ => Iff.rfl) (ih r hr)
  | case5 fuel c cs h1 h2 hc hg ih | case7 fuel c cs h1 h2 hc neg rs rest hg ih =>
    obtain ⟨r, hr, rfl⟩ := Option.map_eq_some_iff.mp h
    simp only [GlobSem, ← beq_iff_eq (a := c), h1, h2, hc, hg, if_true]
    exact Denotes.one (fun _ _ _ => Iff.rfl) (ih r hr)
  | case8 fuel c cs h1 h2 h3 ih =>
    obtain ⟨r, hr, rfl⟩ := Option.map_eq_some_iff.mp h
    simp only [GlobSem, ← beq_iff_eq (a := c), h1, h2, h3]
    exact Denotes.one (fun _ _ _ => Iff.rfl) (ih r hr)

theorem glob_matches (fuel : Nat) : ∀ (pat : Str) (rx : Rx) (v : Str) (i j : Nat), globToRx fuel pat = some rx → i ≤ v.length →
    (rx.Matches v.toArray i j ↔ j = v.length ∧ GlobSem fuel pat (v.drop i)) :=
  fun pat rx v i j h hi => glob_denotes fuel pat rx h v i j hi

theorem pattern_accepts (fuel : Nat) (rule : Str) (rx : Rx) (v : Str) (h : globToRx fuel rule = some rx) :
    rx.matchPrefix v = true ↔ GlobSem fuel rule v := by
  simp only [matchPrefix_iff, glob_matches fuel rule rx v 0 _ h (Nat.zero_le _), List.drop_zero, exists_eq_left]

end Cutplace
