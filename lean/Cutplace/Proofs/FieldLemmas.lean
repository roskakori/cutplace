import Cutplace.Spec.Fields
import Cutplace.Proofs.CharLemmas
namespace Cutplace
open Cutplace.Spec

theorem firstDisallowed_isNone (f : Field) (v : Str) : (firstDisallowed f.allowed v).isNone = charsOk f v := by
  unfold charsOk firstDisallowed
  cases f.allowed with
  | none => rfl
  | some r => simp

theorem lengthOk_eq (f : Field) (v : Str) : f.lengthOk v = (f.allowEmpty && v.isEmpty || lengthWithin f v) := by
  unfold Field.lengthOk lengthWithin
  cases f.allowEmpty && v.isEmpty <;> rfl

theorem charsOk_nil (f : Field) : charsOk f [] = true := by
  unfold charsOk; cases f.allowed <;> simp

theorem stripped_of_emptyCell (f : Field) (v : Str) (h : emptyCell f v = true) :
    (if f.fixed then strip v else v) = [] := by
  unfold emptyCell at h
  split <;> simp_all [strip_all_blank]

/-- The guard pipeline in one test: the hook is reached with a non-empty cell that passed the character and length
guards; an empty cell that passed them is accepted; everything else is refused. -/
theorem Field.pre_eq (f : Field) (v : Str) :
    f.pre v =
      let s := if f.fixed then strip v else v
      if charsOk f v && f.lengthOk v && (f.allowEmpty || !s.isEmpty) then (if s.isEmpty then .inl true else .inr s)
      else .inl false := by
  unfold Field.pre
  rw [← firstDisallowed_isNone]
  cases firstDisallowed f.allowed v with
  | some _ => rfl
  | none =>
    dsimp only
    cases f.allowEmpty <;> cases f.lengthOk v <;> cases (if f.fixed = true then strip v else v).isEmpty <;> rfl

theorem Field.pre_inr_iff {f : Field} {v s : Str} :
    f.pre v = .inr s ↔ s ≠ [] ∧ charsOk f v = true ∧ f.lengthOk v = true ∧ s = (if f.fixed then strip v else v) := by
  rw [Field.pre_eq]
  generalize (if f.fixed = true then strip v else v) = t
  cases charsOk f v <;> cases f.lengthOk v <;> cases f.allowEmpty <;> cases t <;> simp [eq_comm] <;> rintro rfl <;> simp

theorem Field.pre_of_guardSpec {f : Field} {v : Str} {b : Bool} (h : guardSpec f v = some b) : f.pre v = .inl b := by
  rw [Field.pre_eq, lengthOk_eq]
  unfold guardSpec at h
  cases hec : emptyCell f v
  · -- does not count as empty: refused for a character or for its length
    have hv : v.isEmpty = false := by cases v <;> simp_all [emptyCell]
    cases hch : charsOk f v <;> simp_all
  · -- counts as empty: the verdict is `allowEmpty`
    simp only [hec, if_true] at h
    split at h
    · rename_i hg
      cases h
      simp only [stripped_of_emptyCell f v hec]
      cases v with
      | nil => cases f.allowEmpty <;> simp [charsOk_nil]
      | cons c cs =>
        simp only [List.isEmpty_cons, Bool.false_or] at hg
        cases f.allowEmpty <;> simp [hg]
    · cases h

/-- after the decimal separator every further separator, decimal or thousands, refuses the text; the rest is kept -/
theorem translateDecimal_found (sep : Char) (thou : Option Char) (s : Str) :
    translateDecimal sep thou s true = if s.any (fun c => c == sep || thou == some c) then none else some s := by
  induction s with
  | nil => rfl
  | cons c cs ih =>
    simp only [translateDecimal, ih]
    by_cases h1 : c == sep <;> by_cases h2 : thou == some c <;> simp [h1, h2]
    split <;> rfl

/-- before it, thousands separators are dropped -/
theorem translateDecimal_append (sep : Char) (thou : Option Char) (ip rest : Str) (hip : sep ∉ ip) :
    translateDecimal sep thou (ip ++ rest) false =
      (translateDecimal sep thou rest false).map (ip.filter (fun c => thou != some c) ++ ·) := by
  induction ip with
  | nil => simp
  | cons c cs ih =>
    simp only [List.mem_cons, not_or] at hip
    have hc : (c == sep) = false := by simpa using Ne.symm hip.1
    simp only [List.cons_append, translateDecimal, hc, Bool.false_eq_true, if_false, ih hip.2]
    by_cases ht : thou = some c <;> simp [ht, Function.comp_def]

theorem beq_fixed_eq_false {f : Format} : f = .delimited ∨ f = .excel ∨ f = .ods → (f == Format.fixed) = false := by
  rintro (rfl | rfl | rfl) <;> rfl

/-- A field declaration reads the data format through three tests only: "fixed?" (every type), "Excel or ODS?" (Decimal:
those formats have no separator properties, the defaults apply) and "Excel?" (DateTime: the " 00:00:00" suffix). -/
theorem declareFieldIn_format (ty : TypeName) (f1 f2 : Format) (allowed : Option Range) (ds : Char) (ts : Option Char)
    (allowEmpty : Bool) (lengthText rule : Str) (hfix : (f1 == .fixed) = (f2 == .fixed))
    (hdec : ty = .decimal → (f1 == .excel || f1 == .ods) = (f2 == .excel || f2 == .ods) ∨ (ds = '.' ∧ ts = none))
    (hdt : ty = .datetime → (f1 == .excel) = (f2 == .excel)) :
    declareFieldIn ty ⟨f1, allowed, ds, ts⟩ allowEmpty lengthText rule =
      declareFieldIn ty ⟨f2, allowed, ds, ts⟩ allowEmpty lengthText rule := by
  cases ty with
  | decimal =>
    obtain h | ⟨rfl, rfl⟩ := hdec rfl
    · simp only [declareFieldIn, hfix, h]
    · simp only [declareFieldIn, hfix, ite_self]
  | datetime => simp only [declareFieldIn, hfix, hdt rfl]
  | _ => simp only [declareFieldIn, hfix]

end Cutplace
