import Cutplace.Model.Csv
/-
The two halves of the csv round trip, one character at a time.  Writer: the three ways a character of a field is written
(`Written`).  Reader: `feed` is the parser's `step` wrapped in the line splitter, and the wrapping only matters at a
line break; `feed_inQ`, `feed_ordinary` and, for the CR LF that ends a row, `feed_crlf` say so, and with them the one-character
lemmas below are facts about `step` alone.  `CsvRoundTrip` never unfolds the automaton.
-/

namespace Cutplace.Csv

structure GoodCfg (cfg : Cfg) : Prop where
  delim_nl : cfg.delim ≠ '\n'
  delim_cr : cfg.delim ≠ '\r'
  delim_quote : cfg.delim ≠ cfg.quote
  quote_nl : cfg.quote ≠ '\n'
  quote_cr : cfg.quote ≠ '\r'
  no_skip : cfg.skipInitialSpace = false
  dialect : (cfg.dq = true ∧ cfg.esc = none) ∨
    (cfg.dq = false ∧ ∃ e, cfg.esc = some e ∧ e ≠ cfg.delim ∧ e ≠ cfg.quote ∧ e ≠ '\n' ∧ e ≠ '\r')

/-- how the writer encodes one character of a field -/
def charBody (cfg : Cfg) (c : Char) : List Char :=
  if c == cfg.quote then (if cfg.dq then [c, c] else (match cfg.esc with | some e => [e, c] | none => [c]))
  else if some c == cfg.esc then (match cfg.esc with | some e => [e, c] | none => [c])
  else [c]

/-- whether a character forces the field to be quoted -/
def charQuotes (cfg : Cfg) (c : Char) : Bool :=
  if c == cfg.quote then cfg.dq
  else if some c == cfg.esc then false
  else c == cfg.delim || isLT c

/-- The three ways a good dialect writes a character: as it is (then it forces quotes iff it is the delimiter or a line
break), behind the escape character (the quote and the escape character itself, when there is one), or doubled (the quote,
otherwise). -/
inductive Written (cfg : Cfg) (c : Char) : Prop
  | asIs (hq : c ≠ cfg.quote) (he : cfg.esc ≠ some c) (body : charBody cfg c = [c])
      (quotes : charQuotes cfg c = (c == cfg.delim || isLT c))
  | escaped (e : Char) (hdq : cfg.dq = false) (hesc : cfg.esc = some e) (heq : e ≠ cfg.quote) (hen : e ≠ '\n') (her : e ≠ '\r')
      (hc : c = cfg.quote ∨ c = e) (hcn : c ≠ '\n') (hcr : c ≠ '\r') (body : charBody cfg c = [e, c]) (quotes : charQuotes cfg c = false)
  | doubled (hdq : cfg.dq = true) (hesc : cfg.esc = none) (hc : c = cfg.quote) (body : charBody cfg c = [c, c])
      (quotes : charQuotes cfg c = true)

theorem written (cfg : Cfg) (hg : GoodCfg cfg) (c : Char) : Written cfg c := by
  rcases hg.dialect with ⟨hdq, hesc⟩ | ⟨hdq, e, hesc, -, heq, hen, her⟩
  · by_cases hq : c = cfg.quote
    · exact .doubled hdq hesc hq (by simp [charBody, hq, hdq]) (by simp [charQuotes, hq, hdq])
    · exact .asIs hq (by simp [hesc]) (by simp [charBody, hq, hesc]) (by simp [charQuotes, hq, hesc])
  · by_cases hq : c = cfg.quote
    · exact .escaped e hdq hesc heq hen her (.inl hq) (hq ▸ hg.quote_nl) (hq ▸ hg.quote_cr) (by simp [charBody, hq, hdq, hesc])
        (by simp [charQuotes, hq, hdq])
    · by_cases he : c = e
      · exact .escaped e hdq hesc heq hen her (.inr he) (he ▸ hen) (he ▸ her) (by simp [charBody, hesc, he, heq]) (by simp [charQuotes, hesc, he, heq])
      · exact .asIs hq (by simpa [hesc] using Ne.symm he) (by simp [charBody, hq, hesc, he]) (by simp [charQuotes, hq, hesc, he])

theorem fieldBody_eq (cfg : Cfg) (hg : GoodCfg cfg) (f : List Char) :
    fieldBody cfg f = some (f.flatMap (charBody cfg), f.any (charQuotes cfg)) := by
  induction f with
  | nil => rfl
  | cons c cs ih =>
    simp only [fieldBody, ih, List.flatMap_cons, List.any_cons]
    rcases written cfg hg c with ⟨hq, he, hb, hcq⟩ | ⟨e, hdq, hesc, heq, -, -, hc, -, -, hb, hcq⟩ | ⟨hdq, hesc, hq, hb, hcq⟩
    · have he' : (some c == cfg.esc) = false := by simpa using fun h => he h.symm
      have hq' : (c == cfg.quote) = false := by simpa using hq
      simp only [hb, hcq, he', hq', Bool.or_false]
      cases (c == cfg.delim || isLT c) <;> rfl
    · rcases hc with rfl | rfl <;> simp [hb, hcq, hesc, hdq, heq]
    · subst hq
      simp [hb, hcq, hdq]

/-- quoted body in the doublequote dialect: every quote character doubled -/
def bodyDq (q : Char) : List Char → List Char
  | [] => []
  | c :: cs => if c = q then q :: q :: bodyDq q cs else c :: bodyDq q cs

theorem bodyDq_eq (cfg : Cfg) (hdq : cfg.dq = true) (hesc : cfg.esc = none) (f : List Char) :
    bodyDq cfg.quote f = f.flatMap (charBody cfg) := by
  induction f with
  | nil => rfl
  | cons c cs ih =>
    rw [bodyDq, ih, List.flatMap_cons, charBody]
    by_cases hq : c = cfg.quote
    · simp [hq, hdq]
    · simp [hq, hesc]

theorem feedAll_cons (cfg : Cfg) (s : S) (c : Char) (cs : List Char) :
    feedAll cfg s (c :: cs) = (feed cfg s c).bind (fun s' => feedAll cfg s' cs) := by
  rw [feedAll]; cases feed cfg s c <;> rfl

theorem feedAll_append (cfg : Cfg) (s : S) (a b : List Char) :
    feedAll cfg s (a ++ b) = (feedAll cfg s a).bind (fun s' => feedAll cfg s' b) := by
  induction a generalizing s with
  | nil => rfl
  | cons c cs ih =>
    rw [List.cons_append, feedAll_cons, feedAll_cons]
    cases feed cfg s c with
    | none => rfl
    | some s' => exact ih s'

/-- state of the reader inside a quoted field -/
def inQ (l : L) (acc : List Char) (fields : List (List Char)) (out : List (List (List Char))) : S :=
  { l := l, p := { st := .inQuoted, field := acc, fields := fields }, out := out }

theorem eol_inQ (cfg : Cfg) (l : L) (acc : List Char) (fields : List (List Char)) (out : List (List (List Char))) :
    S.eol cfg (inQ l acc fields out) = some (inQ l acc fields out) := rfl

/-- the line splitter after the character `c` -/
def nextL (c : Char) : L := if c = '\n' then .fresh else if c = '\r' then .cr else .mid

/-- Inside quotes an end of line is no event for the parser.  So as long as it stays inside quotes, `feed` is `step`, whatever
the character and whatever the line splitter's state. -/
theorem feed_inQ (cfg : Cfg) (c : Char) (l : L) (acc acc' : List Char) (fields : List (List Char)) (out : List (List (List Char)))
    (h : step cfg ⟨.inQuoted, acc, fields⟩ (.ch c) = some ⟨.inQuoted, acc', fields⟩) :
    feed cfg (inQ l acc fields out) c = some (inQ (nextL c) acc' fields out) := by
  have hch : S.ch cfg (inQ l acc fields out) c = some (inQ l acc' fields out) := by simp only [S.ch, inQ, h]
  simp only [feed, eol_inQ, ite_self, hch, nextL]
  split
  · rfl
  · split <;> rfl

/-- A character that is no line break is no business of the line splitter, unless a line is still open after a CR: `feed` is
`step`.  (`hl` also covers the quoted state, where closing that line changes nothing: `eol_inQ`.) -/
theorem feed_ordinary (cfg : Cfg) (s : S) (c : Char) (hn : c ≠ '\n') (hr : c ≠ '\r') (hl : s.l = .cr → S.eol cfg s = some s) :
    feed cfg s c = (step cfg s.p (.ch c)).map (fun p' => ⟨.mid, p', s.out⟩) := by
  have hpre : (if s.l = .cr ∧ c ≠ '\n' then S.eol cfg s else some s) = some s := by
    split
    · exact hl (And.left ‹_›)
    · rfl
  simp only [feed, hpre, S.ch, hn, hr, if_false]
  cases step cfg s.p (.ch c) <;> rfl

/-- CR LF where the parser ends the line at the CR: the record is emitted and the reader is in its initial state again. -/
theorem feed_crlf (cfg : Cfg) (l : L) (hl : l ≠ .cr) (p : P) (flds : List (List Char)) (out : List (List (List Char)))
    (h : step cfg p (.ch '\r') = some ⟨.eatCrnl, [], flds⟩) :
    feedAll cfg ⟨l, p, out⟩ ['\r', '\n'] = some ⟨.fresh, {}, flds.reverse :: out⟩ := by
  have h1 : feed cfg ⟨l, p, out⟩ '\r' = some ⟨.cr, ⟨.eatCrnl, [], flds⟩, out⟩ := by simp [feed, S.ch, h, hl]
  rw [feedAll, h1]
  -- the LF: `eatCrnl` swallows it, then the end of the line emits the record
  rfl

theorem quoted_char (cfg : Cfg) (hg : GoodCfg cfg) (c : Char) (l : L) (acc : List Char) (fields : List (List Char))
    (out : List (List (List Char))) :
    ∃ l', feedAll cfg (inQ l acc fields out) (charBody cfg c) = some (inQ l' (c :: acc) fields out) := by
  rcases written cfg hg c with ⟨hq, he, hb, -⟩ | ⟨e, -, hesc, -, hen, her, -, hcn, hcr, hb, -⟩ | ⟨hdq, hesc, rfl, hb, -⟩
  · -- data, line breaks included
    have hst : step cfg ⟨.inQuoted, acc, fields⟩ (.ch c) = some ⟨.inQuoted, c :: acc, fields⟩ := by
      simp [step, P.add, hq, Ne.symm he]
    exact ⟨nextL c, by rw [hb, feedAll, feed_inQ cfg c l acc _ fields out hst]; rfl⟩
  · -- the escape character, then `c` taken as it is
    refine ⟨.mid, ?_⟩
    rw [hb, feedAll, feed_ordinary cfg _ e hen her (fun _ => eol_inQ ..)]
    simp [inQ, step, hesc, feedAll, feed_ordinary cfg _ c hcn hcr, P.add]
  · -- the quote, doubled
    refine ⟨.mid, ?_⟩
    rw [hb, feedAll, feed_ordinary cfg _ _ hg.quote_nl hg.quote_cr (fun _ => eol_inQ ..)]
    simp [inQ, step, hesc, hdq, feedAll, feed_ordinary cfg _ _ hg.quote_nl hg.quote_cr, P.add]

theorem feed_open_quote (cfg : Cfg) (hg : GoodCfg cfg) (l : L) (hl : l ≠ .cr) (st : St) (hst : st = .startField ∨ st = .startRecord)
    (fields : List (List Char)) (out : List (List (List Char))) :
    feed cfg ⟨l, ⟨st, [], fields⟩, out⟩ cfg.quote = some (inQ .mid [] fields out) := by
  rw [feed_ordinary cfg _ _ hg.quote_nl hg.quote_cr (fun h => absurd h hl)]
  rcases hst with rfl | rfl <;> simp [inQ, step, stepStartField, isNl, hg.quote_nl, hg.quote_cr]

theorem feed_close_quote (cfg : Cfg) (hg : GoodCfg cfg) (l : L) (acc : List Char) (fields : List (List Char))
    (out : List (List (List Char))) :
    feed cfg (inQ l acc fields out) cfg.quote =
      some ⟨.mid, ⟨if cfg.dq then .quoteInQuoted else .inField, acc, fields⟩, out⟩ := by
  rw [feed_ordinary cfg _ _ hg.quote_nl hg.quote_cr (fun _ => eol_inQ ..)]
  rcases hg.dialect with ⟨hdq, hesc⟩ | ⟨hdq, e, hesc, -, heq, -, -⟩
  · simp [inQ, step, hdq, hesc]
  · simp [inQ, step, hdq, hesc, Ne.symm heq]

/-- the reader is at the start of a field or inside an unquoted field -/
def OpenState (s : S) : Prop :=
  s.l ≠ .cr ∧ (s.p.st = .inField ∨ (s.p.field = [] ∧ (s.p.st = .startField ∨ s.p.st = .startRecord)))

theorem unquoted_char (cfg : Cfg) (hg : GoodCfg cfg) (c : Char) (hc : charQuotes cfg c = false)
    (s : S) (hs : OpenState s) :
    feedAll cfg s (charBody cfg c) =
      some { l := .mid, p := { st := .inField, field := c :: s.p.field, fields := s.p.fields }, out := s.out } := by
  obtain ⟨l, ⟨st, fld, fields⟩, out⟩ := s
  obtain ⟨hl, hst⟩ := hs
  have hl' : l = .cr → S.eol cfg ⟨l, ⟨st, fld, fields⟩, out⟩ = some ⟨l, ⟨st, fld, fields⟩, out⟩ := fun h => absurd h hl
  have hskip := hg.no_skip
  rcases written cfg hg c with ⟨hq, he, hb, hcq⟩ | ⟨e, -, hesc, heq, hen, her, -, hcn, hcr, hb, -⟩ | ⟨-, -, -, -, hcq⟩
  · -- no quote, no escape character, no delimiter, no line break
    rw [hc, eq_comm, Bool.or_eq_false_iff] at hcq
    have hn : c ≠ '\n' := by rintro rfl; simp [isLT] at hcq
    have hr : c ≠ '\r' := by rintro rfl; simp [isLT] at hcq
    rw [hb, feedAll, feed_ordinary cfg _ c hn hr hl']
    rcases hst with rfl | ⟨rfl, rfl | rfl⟩ <;>
      simp [step, stepInField, stepStartField, isNl, P.add, feedAll, hn, hr, hq, Ne.symm he, hcq.1, hskip]
  · -- the escape character, then the quote or the escape character taken as it is
    rw [hb, feedAll, feed_ordinary cfg _ e hen her hl']
    rcases hst with rfl | ⟨rfl, rfl | rfl⟩ <;>
      simp [step, stepInField, stepStartField, isNl, P.add, feedAll, feed_ordinary cfg _ c hcn hcr, hen, her, heq, hesc, hcn, hcr]
  · rw [hc] at hcq; cases hcq

/-- the line splitter and the parser state after a complete field `f` (its text is then in the buffer): one from which
a delimiter or a line end finishes the field -/
def FieldEnd (l : L) (st : St) (f : List Char) : Prop :=
  l ≠ .cr ∧ (st = .inField ∨ st = .quoteInQuoted ∨ (f = [] ∧ (st = .startField ∨ st = .startRecord)))

theorem delim_read (cfg : Cfg) (hg : GoodCfg cfg) (l : L) (st : St) (f : List Char) (fields : List (List Char))
    (out : List (List (List Char))) (h : FieldEnd l st f) :
    feed cfg ⟨l, ⟨st, f.reverse, fields⟩, out⟩ cfg.delim = some ⟨.mid, ⟨.startField, [], f :: fields⟩, out⟩ := by
  obtain ⟨hl, hst⟩ := h
  have hdn := hg.delim_nl
  have hdr := hg.delim_cr
  have hde : (some cfg.delim == cfg.esc) = false := by
    rcases hg.dialect with ⟨_, hesc⟩ | ⟨_, e, hesc, hed, _, _, _⟩
    · simp [hesc]
    · rw [hesc]; simpa using Ne.symm hed
  rw [feed_ordinary cfg _ _ hdn hdr (fun h => absurd h hl)]
  rcases hst with rfl | rfl | ⟨rfl, rfl | rfl⟩ <;>
    simp [step, stepInField, stepStartField, isNl, P.save, hdn, hdr, hde, hg.delim_quote, hg.no_skip]

theorem rowend_read (cfg : Cfg) (hg : GoodCfg cfg) (l : L) (st : St) (f : List Char) (fields : List (List Char))
    (out : List (List (List Char))) (h : FieldEnd l st f) (hnr : st ≠ .startRecord) :
    feedAll cfg ⟨l, ⟨st, f.reverse, fields⟩, out⟩ ['\r', '\n'] = some ⟨.fresh, {}, (f :: fields).reverse :: out⟩ := by
  obtain ⟨hl, hst⟩ := h
  refine feed_crlf cfg l hl _ _ _ ?_
  rcases hst with rfl | rfl | ⟨rfl, rfl | rfl⟩
  · simp [step, stepInField, isNl, endLine, P.save]
  · simp [step, isNl, endLine, P.save, Ne.symm hg.quote_cr, Ne.symm hg.delim_cr]
  · simp [step, stepStartField, isNl, endLine, P.save]
  · exact absurd rfl hnr

end Cutplace.Csv
