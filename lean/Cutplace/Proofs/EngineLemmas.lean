import Cutplace.Model.Engine
namespace Cutplace

@[simp] theorem Event.isRow_row (r : Row) : (Event.row r).isRow = true := rfl
@[simp] theorem Event.isRow_err (l : Nat) (e : RowErr) : (Event.err l e).isRow = false := rfl

def rejects (p : Column × Str) : Bool := !p.1.accepts p.2

/-- hook calls: for the cells up to and including the first rejected one (all cells if none is
rejected), in column order, exactly those whose guards pass -/
def hookCallsFrom (i : Nat) : List (Column × Str) → List Call
  | [] => []
  | p :: ps => hookCall i p.1 p.2 ++ (if rejects p then [] else hookCallsFrom (i + 1) ps)

theorem validateCells_eq (cols : List Column) (row : Row) (i : Nat) :
    validateCells cols row i =
      (((cols.zip row).findIdx? rejects).map (· + i), hookCallsFrom i (cols.zip row)) := by
  induction cols generalizing row i with
  | nil => simp [validateCells, hookCallsFrom]
  | cons c cs ih =>
    cases row with
    | nil => simp [validateCells, hookCallsFrom]
    | cons v vs =>
      simp only [validateCells, ih, List.zip_cons_cons, List.findIdx?_cons, hookCallsFrom, rejects]
      by_cases h : c.accepts v = true
      · cases (cs.zip vs).findIdx? rejects <;> simp [h, Nat.succ_add_eq_add_succ]
      · simp [h]

theorem findIdx?_rejects_eq_none {ps : List (Column × Str)} :
    ps.findIdx? rejects = none ↔ ∀ p ∈ ps, p.1.accepts p.2 = true := by
  simp [rejects]

theorem validateRow_cases {σ} (cols : List Column) (checks : List (Check σ)) (sts : List σ) (row : Row) (line : Nat) :
    (row.length ≠ cols.length ∧ validateRow cols checks sts row line = (sts, some .count, [])) ∨
    (row.length = cols.length ∧ ∃ j, (cols.zip row).findIdx? rejects = some j ∧
      validateRow cols checks sts row line = (sts, some (.field j), hookCallsFrom 0 (cols.zip row))) ∨
    (row.length = cols.length ∧ (cols.zip row).findIdx? rejects = none ∧
      validateRow cols checks sts row line =
        ((runChecks checks sts row line 0).1,
         (runChecks checks sts row line 0).2.1.map (fun p => RowErr.check p.1 p.2.seeAlso),
         hookCallsFrom 0 (cols.zip row) ++ (runChecks checks sts row line 0).2.2)) := by
  rw [validateRow, validateCells_eq]
  by_cases hlen : row.length = cols.length
  · cases hf : (cols.zip row).findIdx? rejects <;> simp [hlen]
  · simp [hlen]

/-- The trace of a loop that visits the items `i, i + 1, …` (there are `m`), makes the call `f j` at item `j`
and stops behind the first item that fails, whose index is `res`: the calls are those for `k` consecutive
items, where `k` is all of them or reaches just past `res`.  Both loops over the checks are of this kind. -/
def StopsAtFirst (f : Nat → Call) (i m : Nat) (res : Option Nat) (log : List Call) : Prop :=
  ∃ k, log = (List.range' i k).map f ∧ k ≤ m ∧
    match res with
    | some j => j + 1 = i + k
    | none => k = m

namespace StopsAtFirst
variable {f : Nat → Call} {i m : Nat} {res : Option Nat} {log : List Call}

theorem done : StopsAtFirst f i 0 none [] := ⟨0, rfl, Nat.le_refl 0, rfl⟩

theorem stop : StopsAtFirst f i (m + 1) (some i) [f i] := ⟨1, rfl, by omega, rfl⟩

theorem next : StopsAtFirst f (i + 1) m res log → StopsAtFirst f i (m + 1) res (f i :: log)
  | ⟨k, hlog, hk, hres⟩ =>
    ⟨k + 1, by simp [hlog, List.range'_succ], by omega, by cases res <;> simp <;> omega⟩

end StopsAtFirst

theorem runChecks_log {σ} (checks : List (Check σ)) (sts : List σ) (row : Row) (line i : Nat) :
    StopsAtFirst (fun j => Call.checkRow j row line) i (min checks.length sts.length)
      ((runChecks checks sts row line i).2.1.map (·.1)) (runChecks checks sts row line i).2.2 := by
  induction checks generalizing sts i with
  | nil => simpa using .done
  | cons c cs ih =>
    cases sts with
    | nil => simpa using .done
    | cons s ss =>
      rw [runChecks, List.length_cons, List.length_cons, Nat.succ_min_succ]
      rcases c.row s row line with ⟨s', _ | v⟩
      · exact (ih ss (i + 1)).next
      · exact .stop

theorem atEndLoop_log {σ} (checks : List (Check σ)) (sts : List σ) (i : Nat) :
    StopsAtFirst Call.atEnd i (min checks.length sts.length) (atEndLoop checks sts i).1 (atEndLoop checks sts i).2 := by
  induction checks generalizing sts i with
  | nil => simpa using .done
  | cons c cs ih =>
    cases sts with
    | nil => simpa using .done
    | cons s ss =>
      rw [atEndLoop, List.length_cons, List.length_cons, Nat.succ_min_succ]
      split
      · exact (ih ss (i + 1)).next
      · exact .stop

def Call.isReset : Call → Bool
  | .reset _ => true
  | _ => false

theorem hookCallsFrom_isReset (i : Nat) (ps : List (Column × Str)) : ∀ c ∈ hookCallsFrom i ps, c.isReset = false := by
  induction ps generalizing i with
  | nil => simp [hookCallsFrom]
  | cons p ps ih =>
    intro c hc
    rw [hookCallsFrom, List.mem_append] at hc
    rcases hc with hc | hc
    · unfold hookCall at hc
      split at hc <;> simp at hc
      subst hc; rfl
    · split at hc
      · simp at hc
      · exact ih _ c hc

theorem validateRow_log_isReset {σ} (cols : List Column) (checks : List (Check σ)) (sts : List σ) (row : Row) (line : Nat) :
    ∀ c ∈ (validateRow cols checks sts row line).2.2, c.isReset = false := by
  intro c hc
  obtain ⟨-, hv⟩ | ⟨-, j, -, hv⟩ | ⟨-, -, hv⟩ := validateRow_cases cols checks sts row line
  · simp [hv] at hc
  · exact hookCallsFrom_isReset _ _ c (by simpa [hv] using hc)
  · obtain ⟨k, hk, -⟩ := runChecks_log checks sts row line 0
    rw [hv, List.mem_append, hk, List.mem_map] at hc
    obtain hc | ⟨j, -, rfl⟩ := hc
    · exact hookCallsFrom_isReset _ _ c hc
    · rfl

/-!
`readLoop` treats a row in one of four ways, decided by its line and by `validateRow`: a header row is
dropped, a row beyond the limit is passed on unvalidated, a validated row is accepted or rejected (and
only then does the mode matter).  The equations below say what each case contributes; `readLoop_induction`
is induction over the rows with exactly these cases.  Where `cfg` is a literal `⟨mode, header, limit⟩` the
side conditions of an equation cannot be passed as arguments (`cfg` would have to be inferred from `header`);
`simp only [readLoop_skip, hh]` rewrites every run in the goal, whatever its mode, and discharges them. -/

section readLoop
variable {σ : Type} {cfg : ReaderCfg} {cols : List Column} {checks : List (Check σ)} {fault : Bool}
  {n : Nat} {row : Row} {rest : List Row} {st : RState σ} {sts' : List σ} {e : RowErr} {log : List Call}

theorem readLoop_nil :
    readLoop cfg cols checks fault n [] st = ⟨[], if fault then .format n else .exhausted, st, []⟩ := by
  rw [readLoop]

theorem readLoop_skip (hh : n + 1 ≤ cfg.header) :
    readLoop cfg cols checks fault n (row :: rest) st = readLoop cfg cols checks fault (n + 1) rest st := by
  rw [readLoop, if_neg (by omega)]

theorem readLoop_beyond (hh : cfg.header < n + 1) (hl : inLimit cfg.limit (n + 1) = false) :
    readLoop cfg cols checks fault n (row :: rest) st =
      let r := readLoop cfg cols checks fault (n + 1) rest { st with accepted := st.accepted + 1 }
      { r with events := .row row :: r.events } := by
  rw [readLoop, if_pos hh, if_neg (by simp [hl])]

theorem readLoop_accept (hv : validateRow cols checks st.sts row n = (sts', none, log))
    (hh : cfg.header < n + 1) (hl : inLimit cfg.limit (n + 1) = true) :
    readLoop cfg cols checks fault n (row :: rest) st =
      let r := readLoop cfg cols checks fault (n + 1) rest ⟨sts', st.accepted + 1, st.rejected⟩
      { r with events := .row row :: r.events, log := log ++ r.log } := by
  rw [readLoop, if_pos hh, if_pos hl, hv]

theorem readLoop_reject (hv : validateRow cols checks st.sts row n = (sts', some e, log))
    (hh : cfg.header < n + 1) (hl : inLimit cfg.limit (n + 1) = true) :
    readLoop cfg cols checks fault n (row :: rest) st =
      let r := readLoop cfg cols checks fault (n + 1) rest ⟨sts', st.accepted, st.rejected + 1⟩
      match cfg.mode with
      | .raise => ⟨[], .raised n e, ⟨sts', st.accepted, st.rejected⟩, log⟩
      | .yield => { r with events := .err n e :: r.events, log := log ++ r.log }
      | .continue => { r with log := log ++ r.log } := by
  rw [readLoop, if_pos hh, if_pos hl, hv]
  rfl

end readLoop

/-- Neither the mode nor a container fault decides which case a row falls into, so one induction serves
statements that compare runs differing in those. -/
theorem readLoop_induction {σ : Type} (header : Nat) (limit : Option Nat) (cols : List Column) (checks : List (Check σ))
    {motive : Nat → List Row → RState σ → Prop}
    (nil : ∀ {n st}, motive n [] st)
    (skip : ∀ {n row rest st}, n + 1 ≤ header → motive (n + 1) rest st → motive n (row :: rest) st)
    (beyond : ∀ {n row rest st}, header < n + 1 → inLimit limit (n + 1) = false →
      motive (n + 1) rest { st with accepted := st.accepted + 1 } → motive n (row :: rest) st)
    (accept : ∀ {n row rest st sts' log}, header < n + 1 → inLimit limit (n + 1) = true →
      validateRow cols checks st.sts row n = (sts', none, log) →
      motive (n + 1) rest ⟨sts', st.accepted + 1, st.rejected⟩ → motive n (row :: rest) st)
    (reject : ∀ {n row rest st sts' e log}, header < n + 1 → inLimit limit (n + 1) = true →
      validateRow cols checks st.sts row n = (sts', some e, log) →
      motive (n + 1) rest ⟨sts', st.accepted, st.rejected + 1⟩ → motive n (row :: rest) st)
    (n : Nat) (rows : List Row) (st : RState σ) : motive n rows st := by
  induction rows generalizing n st with
  | nil => exact nil
  | cons row rest ih =>
    by_cases hh : n + 1 ≤ header
    · exact skip hh (ih _ _)
    · cases hl : inLimit limit (n + 1) with
      | false => exact beyond (by omega) hl (ih _ _)
      | true =>
        rcases hv : validateRow cols checks st.sts row n with ⟨sts', _ | e, log⟩
        · exact accept (by omega) hl hv (ih _ _)
        · exact reject (by omega) hl hv (ih _ _)

theorem readLoop_log_forall {σ} {P : Call → Prop} (cfg : ReaderCfg) (cols : List Column) (checks : List (Check σ))
    (fault : Bool) (h : ∀ sts row line, ∀ c ∈ (validateRow cols checks sts row line).2.2, P c)
    (n : Nat) (rows : List Row) (st : RState σ) : ∀ c ∈ (readLoop cfg cols checks fault n rows st).log, P c := by
  induction n, rows, st using readLoop_induction cfg.header cfg.limit cols checks with
  | nil => simp [readLoop_nil]
  | skip hh ih => rwa [readLoop_skip hh]
  | beyond hh hl ih => rwa [readLoop_beyond hh hl]
  | @accept n row _ st _ log hh hl hv ih =>
    rw [readLoop_accept hv hh hl]
    exact List.forall_mem_append.mpr ⟨by simpa [hv] using h st.sts row n, ih⟩
  | @reject n row _ st _ _ log hh hl hv ih =>
    have hlog : ∀ c ∈ log, P c := by simpa [hv] using h st.sts row n
    rw [readLoop_reject hv hh hl]
    cases cfg.mode with
    | raise => exact hlog
    | yield | «continue» => exact List.forall_mem_append.mpr ⟨hlog, ih⟩

/-- Rows outside the window, in the header or beyond the limit, cause no call: a run in which every row is such has an
empty log (`i` is the number of the row, counted from 1). -/
theorem readLoop_log_outside {σ} (cfg : ReaderCfg) (cols : List Column) (checks : List (Check σ)) (fault : Bool)
    (n : Nat) (rows : List Row) (st : RState σ)
    (h : ∀ i, n < i → i ≤ n + rows.length → i ≤ cfg.header ∨ inLimit cfg.limit i = false) :
    (readLoop cfg cols checks fault n rows st).log = [] := by
  induction n, rows, st using readLoop_induction cfg.header cfg.limit cols checks with
  | nil => rw [readLoop_nil]
  | skip hh ih => rw [readLoop_skip hh]; exact ih fun i h1 h2 => h i (by omega) (by simp; omega)
  | beyond hh hl ih => rw [readLoop_beyond hh hl]; exact ih fun i h1 h2 => h i (by omega) (by simp; omega)
  | @accept n _ _ _ _ _ hh hl => exact absurd (h (n + 1) (by omega) (by simp)) (by simp [hl]; omega)
  | @reject n _ _ _ _ _ _ hh hl => exact absurd (h (n + 1) (by omega) (by simp)) (by simp [hl]; omega)

/-- **Reading is incremental.** Reading `a ++ b` is reading `a` and, unless that raised, going on with `b` where
`a` left off; a container fault behind the rows only shows once they are used up. -/
theorem readLoop_append {σ : Type} (cfg : ReaderCfg) (cols : List Column) (checks : List (Check σ)) (fault : Bool)
    (b : List Row) (n : Nat) (a : List Row) (st : RState σ) :
    readLoop cfg cols checks fault n (a ++ b) st =
      let ra := readLoop cfg cols checks false n a st
      if ra.final = .exhausted then
        let rb := readLoop cfg cols checks fault (n + a.length) b ra.st
        ⟨ra.events ++ rb.events, rb.final, rb.st, ra.log ++ rb.log⟩
      else ra := by
  induction n, a, st using readLoop_induction cfg.header cfg.limit cols checks with
  | nil => simp [readLoop_nil]
  | skip hh ih => simpa [readLoop_skip hh, Nat.succ_add_eq_add_succ] using ih
  | beyond hh hl ih =>
    simp only [List.cons_append, readLoop_beyond hh hl, ih]
    split <;> simp [Nat.succ_add_eq_add_succ]
  | accept hh hl hv ih =>
    simp only [List.cons_append, readLoop_accept hv hh hl, ih]
    split <;> simp [Nat.succ_add_eq_add_succ]
  | reject hh hl hv ih =>
    simp only [List.cons_append, readLoop_reject hv hh hl, ih]
    cases cfg.mode with
    | raise => simp
    | yield | «continue» => dsimp only; split <;> simp [Nat.succ_add_eq_add_succ]

theorem readLoop_prefix {σ} (cfg : ReaderCfg) (cols : List Column) (checks : List (Check σ)) (fault : Bool) (b : List Row) :
    ∀ (a : List Row) (n : Nat) (st : RState σ),
      (readLoop cfg cols checks false n a st).events <+: (readLoop cfg cols checks fault n (a ++ b) st).events ∧
      (readLoop cfg cols checks false n a st).log <+: (readLoop cfg cols checks fault n (a ++ b) st).log := by
  intro a n st
  rw [readLoop_append]
  dsimp only
  split <;> simp

theorem writeRows_cons {σ} (header : Nat) (pad : Row → Row) (cols : List Column) (checks : List (Check σ))
    (w : WState σ) (r : Row) (rs : List Row) :
    writeRows header pad cols checks w (r :: rs) =
      let a := writeRow header pad cols checks w r
      let b := writeRows header pad cols checks a.1 rs
      (b.1, a.2.1 :: b.2.1, a.2.2 ++ b.2.2) := rfl

end Cutplace
