import Cutplace.Proofs.RangeLex
/-
The two text passes before tokenising in `Range.__init__` — `description.replace("...", "…")` and
`_tokenizable_description` — turn every spelling of the separator into a colon and leave the rest
of a rendered description alone.
-/

namespace Cutplace
open Cutplace.Spec

/-- characters both passes copy unchanged whatever the context -/
def Plain (c : Char) : Prop := c ≠ '.' ∧ c ≠ '\'' ∧ c ≠ '"' ∧ c ≠ ellipsisChar

/-- a text pass that copies plain text and quoted characters and rewrites separators by `σ` -/
structure Pass (T : Str → Str) (σ : SepSp → SepSp) : Prop where
  nil : T [] = []
  plain : ∀ (cs rest : Str), (∀ c ∈ cs, Plain c) → T (cs ++ rest) = cs ++ T rest
  quoted : ∀ (dq : Bool) (ch : Char) (rest : Str), ch ≠ '\\' → ch ≠ quoteChar dq →
    T (quoteChar dq :: ch :: quoteChar dq :: rest) = quoteChar dq :: ch :: quoteChar dq :: T rest
  sep : ∀ (s : SepSp) (rest : Str), T (renderSep s ++ rest) = renderSep (σ s) ++ T rest

theorem plain_of_class {p : Char → Bool} (hp : p '.' = false ∧ p '\'' = false ∧ p '"' = false ∧ p ellipsisChar = false)
    {c : Char} (h : p c = true) : Plain c :=
  ⟨ne_of_class h hp.1, ne_of_class h hp.2.1, ne_of_class h hp.2.2.1, ne_of_class h hp.2.2.2⟩

theorem Pass.comp {T T' : Str → Str} {σ σ' : SepSp → SepSp} (h : Pass T σ) (h' : Pass T' σ') :
    Pass (fun s => T' (T s)) (fun x => σ' (σ x)) where
  nil := by rw [h.nil, h'.nil]
  plain := fun cs rest hc => by rw [h.plain cs rest hc, h'.plain cs _ hc]
  quoted := fun dq ch rest h1 h2 => by rw [h.quoted dq ch rest h1 h2, h'.quoted dq ch _ h1 h2]
  sep := fun s rest => by rw [h.sep, h'.sep]

theorem Pass.cons {T : Str → Str} {σ : SepSp → SepSp} (hP : Pass T σ) {c : Char} (hc : Plain c) (rest : Str) :
    T (c :: rest) = c :: T rest :=
  hP.plain [c] rest (by simpa using hc)

theorem Pass.blanks {T : Str → Str} {σ : SepSp → SepSp} (hP : Pass T σ) (k : Nat) (rest : Str) :
    T (Spec.blanks k ++ rest) = Spec.blanks k ++ T rest :=
  hP.plain _ rest (fun c hc => by rw [(List.mem_replicate.mp hc).2]; unfold Plain; decide)

theorem Pass.word {T : Str → Str} {σ : SepSp → SepSp} (hP : Pass T σ) {k : TokKind} {w : Str} (hw : Word k w) (rest : Str) :
    T (w ++ rest) = w ++ T rest := by
  rcases hw.shape with ⟨_, h⟩ | ⟨dq, ch, rfl, h1, h2, _⟩
  · exact hP.plain w rest (fun c hc => plain_of_class (by decide) (h c hc))
  · exact hP.quoted dq ch rest h1 h2

def sigmaReplace : SepSp → SepSp
  | .dots => .ellipsis
  | s => s

def sigmaTokenizable : SepSp → SepSp
  | .ellipsis => .colon
  | s => s

theorem replaceAll_skip (old new : Str) (c : Char) (cs : Str) (h : startsWith (c :: cs) old = false) :
    replaceAll old new (c :: cs) = c :: replaceAll old new cs := by
  rw [replaceAll]
  simp [h]

theorem replaceAll_plain (o : Char) (os new : Str) (cs rest : Str) (h : ∀ c ∈ cs, c ≠ o) :
    replaceAll (o :: os) new (cs ++ rest) = cs ++ replaceAll (o :: os) new rest := by
  induction cs with
  | nil => rfl
  | cons c cs ih =>
    rw [List.cons_append, replaceAll_skip _ _ _ _ (by simp [startsWith, h c (by simp)]), ih (fun x hx => h x (by simp [hx]))]
    rfl

theorem pass_replace : Pass (replaceAll ['.', '.', '.'] [ellipsisChar]) sigmaReplace where
  nil := by rw [replaceAll]
  plain := fun cs rest h => replaceAll_plain _ _ _ cs rest (fun c hc => (h c hc).1)
  quoted := by
    intro dq ch rest _ _
    have hq : quoteChar dq ≠ '.' := by cases dq <;> decide
    rw [replaceAll_skip _ _ _ _ (by simp [startsWith, hq]), replaceAll_skip _ _ ch _ (by simp [startsWith, hq]),
      replaceAll_skip _ _ _ _ (by simp [startsWith, hq])]
  sep := by
    intro s rest
    cases s with
    | dots =>
      simp only [renderSep, sigmaReplace, List.cons_append, List.nil_append]
      rw [replaceAll]
      simp [startsWith]
    | colon => exact replaceAll_skip _ _ _ _ (by simp [startsWith])
    | ellipsis => exact replaceAll_skip _ _ _ _ (by simp [startsWith, ellipsisChar])

theorem tokenizable_plain (cs rest : Str) (h : ∀ c ∈ cs, c ≠ '\'' ∧ c ≠ '"' ∧ c ≠ ellipsisChar) :
    tokenizable none false (cs ++ rest) = cs ++ tokenizable none false rest := by
  induction cs with
  | nil => rfl
  | cons c cs ih =>
    obtain ⟨h1, h2, h3⟩ := h c (by simp)
    simp [tokenizable, h1, h2, h3, ih (fun x hx => h x (by simp [hx]))]

theorem pass_tokenizable : Pass (tokenizable none false) sigmaTokenizable where
  nil := rfl
  plain := fun cs rest h => tokenizable_plain cs rest (fun c hc => ⟨(h c hc).2.1, (h c hc).2.2.1, (h c hc).2.2.2⟩)
  quoted := by
    intro dq ch rest h1 h2
    cases dq
    · simp only [quoteChar, Bool.false_eq_true, if_false] at h2 ⊢
      simp [tokenizable, h1, h2]
    · simp only [quoteChar, if_true] at h2 ⊢
      simp [tokenizable, h1, h2]
  sep := by
    intro s rest
    cases s with
    | dots | colon =>
      simp only [renderSep, sigmaTokenizable]
      exact tokenizable_plain _ rest (by intro c hc; simp at hc; subst hc; decide)
    | ellipsis =>
      simp only [renderSep, sigmaTokenizable, List.cons_append, List.nil_append]
      simp [tokenizable, ellipsisChar]

theorem pass_norm : Pass (fun s => tokenizable none false (replaceAll ['.', '.', '.'] [ellipsisChar] s)) (fun _ => .colon) :=
  (funext fun x => by cases x <;> rfl : (fun x => sigmaTokenizable (sigmaReplace x)) = fun _ => SepSp.colon) ▸
    pass_replace.comp pass_tokenizable

end Cutplace
