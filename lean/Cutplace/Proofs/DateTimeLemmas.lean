import Cutplace.Model.DateTime
import Cutplace.Proofs.CharLemmas
/-
`time.strptime` as modelled accepts only real calendar dates and times: every field a directive can
produce lies in its range, and the day is checked against the month (and the leap-year rule).
-/
namespace Cutplace

theorem dig_le (c : Char) (h : isAsciiDigit c = true) : dig c ≤ 9 := by
  have := isAsciiDigit_iff.1 h
  unfold dig
  omega

structure Fields.Ok (f : Fields) : Prop where
  day : ∀ d, f.day = some d → 1 ≤ d ∧ d ≤ 31
  month : ∀ m, f.month = some m → 1 ≤ m ∧ m ≤ 12
  hour : f.hour ≤ 23
  minute : f.minute ≤ 59
  second : f.second ≤ 61

theorem Fields.ok_empty : ({} : Fields).Ok := ⟨by simp, by simp, by simp, by simp, by simp⟩

/-- `strptime` counts an absent month or day as 1 -/
theorem Fields.Ok.month_getD {f : Fields} (h : f.Ok) : 1 ≤ f.month.getD 1 ∧ f.month.getD 1 ≤ 12 :=
  match hm : f.month with
  | none => by decide
  | some m => h.month m hm

theorem Fields.Ok.day_getD {f : Fields} (h : f.Ok) : 1 ≤ f.day.getD 1 ∧ f.day.getD 1 ≤ 31 :=
  match hd : f.day with
  | none => by decide
  | some d => h.day d hd

def FmtTok.InRange (t : FmtTok) (v : Nat) : Prop :=
  match t with
  | .day => 1 ≤ v ∧ v ≤ 31
  | .month => 1 ≤ v ∧ v ≤ 12
  | .hour => v ≤ 23
  | .minute => v ≤ 59
  | .second => v ≤ 61
  | .year2 => v ≤ 99
  | _ => True

instance (t : FmtTok) (v : Nat) : Decidable (t.InRange v) := by
  cases t <;> unfold FmtTok.InRange <;> infer_instance

theorem forall_mem_ite_singleton {α : Type} {c : Prop} [Decidable c] {x : α} {Q : α → Prop} (h : c → Q x) :
    ∀ y ∈ (if c then [x] else []), Q y := by
  simp_all

/-! The three kinds of alternative yield at most one value, made of digits that `p` admits. -/

theorem digits2_forall {p : Nat → Nat → Bool} {Q : Nat → Prop}
    (h : ∀ a, a ≤ 9 → ∀ b, b ≤ 9 → p a b = true → Q (a * 10 + b)) (s : Str) : ∀ x ∈ digits2 p s, Q x.1 := by
  unfold digits2
  split
  · refine forall_mem_ite_singleton fun hc => ?_
    simp only [Bool.and_eq_true] at hc
    exact h _ (dig_le _ hc.1.1) _ (dig_le _ hc.1.2) hc.2
  · simp

theorem digits1_forall {p : Nat → Bool} {Q : Nat → Prop} (h : ∀ a, a ≤ 9 → p a = true → Q a) (s : Str) :
    ∀ x ∈ digits1 p s, Q x.1 := by
  unfold digits1
  split
  · refine forall_mem_ite_singleton fun hc => ?_
    simp only [Bool.and_eq_true] at hc
    exact h _ (dig_le _ hc.1) hc.2
  · simp

theorem blankDigit_forall {Q : Nat → Prop} (h : ∀ a, a ≤ 9 → 1 ≤ a → Q a) (s : Str) : ∀ x ∈ blankDigit s, Q x.1 := by
  unfold blankDigit
  split
  · refine forall_mem_ite_singleton fun hc => ?_
    simp only [Bool.and_eq_true, decide_eq_true_eq] at hc
    exact h _ (dig_le _ hc.1) hc.2
  · simp

/-- every alternative of CPython's regex for a directive yields a value in the directive's range (each alternative
is checked by evaluation over its one or two decimal digits) -/
theorem directiveAlts_inRange (t : FmtTok) (s : Str) : ∀ x ∈ directiveAlts t s, t.InRange x.1 := by
  cases t <;> simp only [directiveAlts, List.forall_mem_append]
  case day =>
    exact ⟨⟨⟨⟨digits2_forall (by decide +kernel) s, digits2_forall (by decide +kernel) s⟩, digits2_forall (by decide +kernel) s⟩,
      digits1_forall (by decide +kernel) s⟩, blankDigit_forall (by decide +kernel) s⟩
  case month => exact ⟨⟨digits2_forall (by decide +kernel) s, digits2_forall (by decide +kernel) s⟩, digits1_forall (by decide +kernel) s⟩
  case hour => exact ⟨⟨digits2_forall (by decide +kernel) s, digits2_forall (by decide +kernel) s⟩, digits1_forall (by decide +kernel) s⟩
  case minute => exact ⟨digits2_forall (by decide +kernel) s, digits1_forall (by decide +kernel) s⟩
  case second => exact ⟨⟨digits2_forall (by decide +kernel) s, digits2_forall (by decide +kernel) s⟩, digits1_forall (by decide +kernel) s⟩
  case year2 => exact digits2_forall (by decide +kernel) s
  all_goals exact fun _ _ => trivial

theorem setField_ok (f : Fields) (t : FmtTok) (v : Nat) (hf : f.Ok) (hv : t.InRange v) : (setField f t v).Ok :=
  match t, hv with
  | .day, hv => { hf with day := fun _ hd => Option.some.inj hd ▸ hv }
  | .month, hv => { hf with month := fun _ hd => Option.some.inj hd ▸ hv }
  | .hour, hv => { hf with hour := hv }
  | .minute, hv => { hf with minute := hv }
  | .second, hv => { hf with second := hv }
  | .year4, _ | .year2, _ => { hf with }
  | .lit _, _ | .space, _ => hf

/-- what a successful match does to the fields: one `setField` per token of the format, with a value the token's
directive can produce (at a literal or white space `setField` leaves the fields alone); so a property of format and
fields that every such step preserves holds at the end -/
theorem matchToks_inv {P : List FmtTok → Fields → Prop}
    (step : ∀ t ts f v, t.InRange v → P (t :: ts) f → P ts (setField f t v))
    {fmt : List FmtTok} {s : Str} {f f' : Fields} {rest : Str}
    (h : matchToks fmt s f = some (f', rest)) (h0 : P fmt f) : P [] f' := by
  induction fmt generalizing s f with
  | nil => simp [matchToks] at h; exact h.1 ▸ h0
  | cons t ts ih =>
    cases t with
    | lit c =>
      cases s with
      | nil => simp [matchToks] at h
      | cons x r =>
        simp only [matchToks] at h
        split at h
        · exact ih h (step (.lit c) ts f 0 trivial h0)
        · simp at h
    | space =>
      obtain ⟨r, _, hr⟩ := List.exists_of_findSome?_eq_some h
      exact ih hr (step .space ts f 0 trivial h0)
    | day | month | year4 | year2 | hour | minute | second =>
      obtain ⟨⟨v, r⟩, hmem, hr⟩ := List.exists_of_findSome?_eq_some h
      exact ih hr (step _ ts f v (directiveAlts_inRange _ s _ hmem) h0)

theorem matchToks_ok {fmt : List FmtTok} {s : Str} {f f' : Fields} {rest : Str}
    (h : matchToks fmt s f = some (f', rest)) (hf : f.Ok) : f'.Ok :=
  matchToks_inv (fun t _ f v hv hf => setField_ok f t v hf hv) h hf

def hasYear (fmt : List FmtTok) : Bool := fmt.any (fun t => t == .year4 || t == .year2)

theorem matchToks_year {fmt : List FmtTok} {s : Str} {f f' : Fields} {rest : Str}
    (h : matchToks fmt s f = some (f', rest)) (hy : hasYear fmt = true) : f'.year.isSome = true := by
  -- a year directive sets the year; at any other token neither side of the disjunction changes
  have := matchToks_inv (P := fun ts f => hasYear ts = true ∨ f.year.isSome = true)
    (fun t _ _ _ _ h => match t, h with
      | .year4, _ | .year2, _ => Or.inr rfl
      | .day, h | .month, h | .hour, h | .minute, h | .second, h | .lit _, h | .space, h => h) h (Or.inl hy)
  simpa [hasYear] using this

theorem daysInMonth_le (y m : Nat) : daysInMonth y m ≤ 31 := by
  unfold daysInMonth
  split <;> split <;> decide

/-- `strptime` unfolded: the whole value is matched; an absent day or month counts as 1; the day is checked against
the month in the year found, and without a year in 1904 for a 29 February and in 1900 otherwise; an absent year is
reported as 1900 -/
theorem strptime_eq_some (fmt : List FmtTok) (value : Str) (r : Nat × Nat × Nat × Nat × Nat × Nat) :
    strptime fmt value = some r ↔ ∃ f, matchToks fmt value {} = some (f, []) ∧
      f.year.getD (if f.month.getD 1 == 2 && f.day.getD 1 == 29 then 1904 else 1900) ≠ 0 ∧
      f.day.getD 1 ≤ daysInMonth (f.year.getD (if f.month.getD 1 == 2 && f.day.getD 1 == 29 then 1904 else 1900))
        (f.month.getD 1) ∧
      (f.year.getD 1900, f.month.getD 1, f.day.getD 1, f.hour, f.minute, f.second) = r := by
  unfold strptime
  cases hm : matchToks fmt value {} with
  | none => simp
  | some p =>
    obtain ⟨f, rest⟩ := p
    cases rest with
    | cons x xs => simp
    | nil => cases hy : f.year <;> simp [hy]

end Cutplace
