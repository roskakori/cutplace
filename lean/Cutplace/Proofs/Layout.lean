import Cutplace.Proofs.DateTimeComplete
/-
C02: from the DateTime layout in the CID (such as `DD.MM.YYYY`; literals other than white space and the placeholder
letters, `SafeLayout`) to strptime's directives.
-/
namespace Cutplace

inductive LTok
  | day | month | year4 | year2 | hour | minute | second
  | lit (c : Char)
  deriving Repr, DecidableEq, Inhabited

def LTok.fmt : LTok → FmtTok
  | .day => .day | .month => .month | .year4 => .year4 | .year2 => .year2
  | .hour => .hour | .minute => .minute | .second => .second | .lit c => .lit c

/-- the text of a layout token: as the CID spells it for `k = 0`, as `translateLayout` leaves it for `k = 8`
(`renderLayout`, `translateLayout_render`); no other `k` is used -/
def LTok.chunk (k : Nat) : LTok → Str
  | .lit c => if c = '%' ∧ 1 ≤ k then ['%', '%'] else [c]
  | .day => if 2 ≤ k then ['%', 'd'] else ['D', 'D']
  | .month => if 3 ≤ k then ['%', 'm'] else ['M', 'M']
  | .year4 => if 4 ≤ k then ['%', 'Y'] else ['Y', 'Y', 'Y', 'Y']
  | .year2 => if 5 ≤ k then ['%', 'y'] else ['Y', 'Y']
  | .hour => if 6 ≤ k then ['%', 'H'] else ['h', 'h']
  | .minute => if 7 ≤ k then ['%', 'M'] else ['m', 'm']
  | .second => if 8 ≤ k then ['%', 'S'] else ['s', 's']

def renderAt (k : Nat) : List LTok → Str
  | [] => []
  | t :: rest => t.chunk k ++ renderAt k rest

/-- the layout as the CID spells it -/
def renderLayout (l : List LTok) : Str := renderAt 0 l

def LTok.isYear : LTok → Bool
  | .year4 => true | .year2 => true | _ => false

/-- literal characters that are no letters of a placeholder and no white space (`%` is fine) -/
def SafeLit (c : Char) : Prop :=
  c ≠ 'D' ∧ c ≠ 'M' ∧ c ≠ 'Y' ∧ c ≠ 'h' ∧ c ≠ 'm' ∧ c ≠ 's' ∧ isPySpace c = false

/-- literals are safe; `YY` is not directly followed by another year placeholder (`YYYY` would read as the four-digit year) -/
def SafeLayout : List LTok → Prop
  | [] => True
  | t :: rest =>
    (∀ c, t = .lit c → SafeLit c) ∧
    (match rest with
     | [] => True
     | u :: _ => ¬ (t = .year2 ∧ u.isYear = true)) ∧
    SafeLayout rest

theorem SafeLayout.tail {t : LTok} {rest : List LTok} (h : SafeLayout (t :: rest)) : SafeLayout rest := h.2.2

theorem SafeLayout.lit {c : Char} {rest : List LTok} (h : SafeLayout (.lit c :: rest)) : SafeLit c := h.1 c rfl

theorem translateLayout_lit (c : Char) (h : SafeLit c) (hc : c ≠ '%') (r : Str) :
    translateLayout (c :: r) = c :: translateLayout r := by
  obtain ⟨hD, hM, hY, hh, hm, hs, _⟩ := h
  -- the equation of the last case has one side condition for each case before it
  rw [translateLayout] <;> intros <;> contradiction

/-- after `YY` the remaining layout does not go on with `YY` -/
theorem translateLayout_year2 (rest : List LTok) (h : SafeLayout (.year2 :: rest)) :
    translateLayout ('Y' :: 'Y' :: renderAt 0 rest) = '%' :: 'y' :: translateLayout (renderAt 0 rest) := by
  rw [translateLayout]
  intro r' hr
  cases rest with
  | nil => cases hr
  | cons u r =>
    cases u with
    | lit c =>
      simp only [renderAt, LTok.chunk, Nat.reduceLeDiff, and_false, if_false, List.cons_append,
        List.cons.injEq] at hr
      -- a safe literal is no `Y`
      exact h.tail.lit.2.2.1 hr.1
    | year4 | year2 => exact h.2.1 ⟨rfl, rfl⟩
    | _ => simp [renderAt, LTok.chunk] at hr

theorem translateLayout_render (l : List LTok) (h : SafeLayout l) : translateLayout (renderLayout l) = renderAt 8 l := by
  unfold renderLayout
  induction l with
  | nil => rfl
  | cons t rest ih =>
    have ih := ih h.tail
    cases t with
    | lit c =>
      by_cases hc : c = '%'
      · subst hc
        simp only [renderAt, LTok.chunk, Nat.reduceLeDiff, and_false, and_true, if_true, if_false, List.cons_append, List.nil_append]
        rw [translateLayout, ih]
      · simp only [renderAt, LTok.chunk, hc, false_and, if_false, List.cons_append, List.nil_append]
        rw [translateLayout_lit c h.lit hc, ih]
    | year2 =>
      simp only [renderAt, LTok.chunk, Nat.reduceLeDiff, if_true, if_false, List.cons_append, List.nil_append]
      rw [translateLayout_year2 rest h, ih]
    | _ =>
      simp only [renderAt, LTok.chunk, Nat.reduceLeDiff, if_true, if_false, List.cons_append, List.nil_append]
      rw [translateLayout, ih]

theorem parseFormat_render8 (l : List LTok) (h : SafeLayout l) : parseFormat (renderAt 8 l) = some (some (l.map LTok.fmt)) := by
  induction l with
  | nil => rfl
  | cons t rest ih =>
    have ih := ih h.tail
    cases t with
    | lit c =>
      obtain ⟨_, _, _, _, _, _, hsp⟩ := h.1 c rfl
      by_cases hc : c = '%'
      · subst hc
        simp only [renderAt, LTok.chunk, Nat.reduceLeDiff, and_self, if_true, List.cons_append, List.nil_append]
        rw [parseFormat]
        simp [ih, LTok.fmt]
      · simp only [renderAt, LTok.chunk, hc, false_and, if_false, List.cons_append, List.nil_append]
        rw [parseFormat, ih] <;> simp [hc, hsp, LTok.fmt]
    | _ =>
      simp only [renderAt, LTok.chunk, Nat.reduceLeDiff, if_true, List.cons_append, List.nil_append]
      rw [parseFormat]
      simp [ih, LTok.fmt]

/-- placeholders side by side are fine, `MM` before `mm` included; `YY` before `YYYY` reads as
`YYYY` before `YY` -/
example : (parseFormat (translateLayout (renderLayout [.month, .minute])) == some (some [.month, .minute])) = true := by decide +kernel
example : (parseFormat (translateLayout (renderLayout [.year2, .year4])) == some (some [.year4, .year2])) = true := by decide +kernel

theorem noSpace_layout (l : List LTok) : NoSpace (l.map LTok.fmt) := by
  intro t ht
  simp only [List.mem_map] at ht
  obtain ⟨u, _, rfl⟩ := ht
  cases u <;> simp [LTok.fmt]

theorem not_mem_layout_year2 (l : List LTok) (h : LTok.year2 ∉ l) : FmtTok.year2 ∉ l.map LTok.fmt := by
  intro hm
  simp only [List.mem_map] at hm
  obtain ⟨u, hu, he⟩ := hm
  cases u <;> simp [LTok.fmt] at he
  exact h hu

end Cutplace
