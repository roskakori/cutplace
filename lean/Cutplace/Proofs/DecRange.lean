import Cutplace.Spec.DecRange
import Cutplace.Proofs.RangeLemmas
/-
The order `decimal.Decimal` comparisons implement in the model (`Dec.le?`: compare the coefficients
scaled to the smaller exponent) is the order of the rational numbers the decimals denote, for every
coefficient and every exponent; membership in a decimal range and its overall limits follow.
-/
namespace Cutplace
open Cutplace.Spec

/-- the rational number a finite decimal denotes: `(-1)^neg * mant * 10^exp` -/
def Dec.toRat : Dec → Rat
  | .fin neg mant exp => (if neg then -1 else 1) * ((mant : Rat) * (10 : Rat) ^ exp)
  | _ => 0

def Dec.isFin : Dec → Bool
  | .fin _ _ _ => true
  | _ => false

theorem scaled_cast (neg : Bool) (mant : Nat) (exp e : Int) (h : e ≤ exp) :
    ((Dec.scaled neg mant exp e : Int) : Rat) = (Dec.fin neg mant exp).toRat * (10 : Rat) ^ (-e) := by
  have hk : ((exp - e).toNat : Int) = exp - e := Int.toNat_of_nonneg (by omega)
  have hp : ((10 : Rat) ^ (exp - e).toNat) = (10 : Rat) ^ exp * (10 : Rat) ^ (-e) := by
    rw [← Rat.zpow_natCast, hk, Int.sub_eq_add_neg, Rat.zpow_add (by decide)]
  cases neg <;>
    simp [Dec.scaled, Dec.toRat, Rat.intCast_natCast, hp, Rat.mul_assoc, Rat.neg_mul]

/-- **`<=` on finite decimals is `≤` on the rationals they denote** -/
theorem le?_fin (n1 : Bool) (m1 : Nat) (e1 : Int) (n2 : Bool) (m2 : Nat) (e2 : Int) :
    Dec.le? (.fin n1 m1 e1) (.fin n2 m2 e2) = some (decide ((Dec.fin n1 m1 e1).toRat ≤ (Dec.fin n2 m2 e2).toRat)) := by
  unfold Dec.le?
  simp only [Option.some.injEq]
  have h1 := scaled_cast n1 m1 e1 (min e1 e2) (Int.min_le_left _ _)
  have h2 := scaled_cast n2 m2 e2 (min e1 e2) (Int.min_le_right _ _)
  have hc : (0 : Rat) < (10 : Rat) ^ (-(min e1 e2)) := Rat.zpow_pos (by decide)
  have : (Dec.scaled n1 m1 e1 (min e1 e2) ≤ Dec.scaled n2 m2 e2 (min e1 e2)) ↔
      (Dec.fin n1 m1 e1).toRat ≤ (Dec.fin n2 m2 e2).toRat := by
    rw [← Rat.intCast_le_intCast, h1, h2]
    constructor
    · intro h; exact Rat.le_of_mul_le_mul_right h hc
    · intro h; exact Rat.mul_le_mul_of_nonneg_right h (Rat.le_of_lt hc)
  exact decide_eq_decide.mpr this

theorem DLit.toRat_toDec (l : DLit) : l.toDec.toRat = l.toRat := by
  have : ((l.coeff : Rat) * (10 : Rat) ^ (-(l.frac : Int))) = (l.coeff : Rat) / (10 : Rat) ^ l.frac := by
    rw [Rat.zpow_neg, Rat.zpow_natCast, Rat.div_def]
  simp only [DLit.toDec, Dec.toRat, DLit.toRat, this]
  cases l.neg <;> simp [Rat.neg_mul]

theorem le?_of_isFin {a b : Dec} (ha : a.isFin = true) (hb : b.isFin = true) :
    Dec.le? a b = some (decide (a.toRat ≤ b.toRat)) := by
  cases a <;> cases b <;> simp [Dec.isFin] at ha hb
  exact le?_fin ..

/-- `_item_contains` on a finite value - any exponent, `1E+3` as well as `1.50` - is membership in the item, in the order of the
rationals -/
theorem contains?_fin (it : DItemD) {v : Dec} (hv : v.isFin = true) :
    it.denote.contains? v = some (decide (it.Mem v.toRat)) := by
  have lo (l : DLit) : Dec.le? l.toDec v = some (decide (l.toRat ≤ v.toRat)) := by
    rw [← DLit.toRat_toDec l]; exact le?_of_isFin rfl hv
  have hi (u : DLit) : Dec.le? v u.toDec = some (decide (v.toRat ≤ u.toRat)) := by
    rw [← DLit.toRat_toDec u]; exact le?_of_isFin hv rfl
  have closed (l u : DLit) :
      (DItemD.closed l u).denote.contains? v = some (decide (l.toRat ≤ v.toRat ∧ v.toRat ≤ u.toRat)) := by
    simp only [DItemD.denote, DItemD.lo, DItemD.hi, Option.map, DItem.contains?, lo, hi]
    by_cases h1 : l.toRat ≤ v.toRat <;> simp [h1]
  cases it with
  | single x =>
    -- stored as `(x, x)`
    exact (closed x x).trans (congrArg some (decide_eq_decide.mpr (Std.le_antisymm_iff.trans eq_comm)))
  | closed l u => exact closed l u
  | from_ l => exact lo l
  | upto u => exact hi u

theorem dAccepts_cons (it : DItemD) (rest : DRangeDesc) (r : Rat) :
    DAccepts (it :: rest) r ↔ it.Mem r ∨ DAccepts rest r := by
  simp [DAccepts]

/-- **membership**: `DecimalRange.validate` accepts a finite value iff it lies inside at least one item -/
theorem dValidateLoop_fin (d : DRangeDesc) {v : Dec} (hv : v.isFin = true) :
    dValidateLoop v (ddenote d) = some (decide (DAccepts d v.toRat)) := by
  induction d with
  | nil => simp [ddenote, dValidateLoop, DAccepts]
  | cons it rest ih =>
    rw [ddenote, List.map_cons, dValidateLoop, contains?_fin it hv, ← ddenote, ih]
    by_cases hm : it.Mem v.toRat <;> simp [hm, dAccepts_cons]

theorem dValidateLoop_denote (d : DRangeDesc) (v : DLit) :
    dValidateLoop v.toDec (ddenote d) = some (decide (DAccepts d v.toRat)) := by
  rw [← DLit.toRat_toDec v]; exact dValidateLoop_fin d rfl

theorem lt_fin (a b : Dec) (ha : a.isFin = true) (hb : b.isFin = true) :
    Dec.lt a b = decide (a.toRat < b.toRat) := by
  rw [Dec.lt, le?_of_isFin hb ha]
  by_cases h : b.toRat ≤ a.toRat <;> simp [h, ← Rat.not_le]

theorem lt_total (a b : Dec) (ha : a.isFin = true) (hb : b.isFin = true) :
    if Dec.lt a b then a.toRat ≤ b.toRat else b.toRat ≤ a.toRat := by
  simp only [lt_fin a b ha hb, decide_eq_true_eq]
  split
  · exact Rat.le_of_lt ‹_›
  · exact Rat.not_lt.mp ‹_›

/-- every limit of every item is a finite decimal (always the case for parsed descriptions: a NaN or an infinity
is never a NUMBER token) -/
def AllFinite (its : List DItem) : Prop :=
  ∀ it ∈ its, (∀ l, it.lo = some l → l.isFin = true) ∧ (∀ u, it.hi = some u → u.isFin = true)

theorem dLowerLimitLoop_eq : dLowerLimitLoop = limitLoop DItem.lo (Dec.lt · ·) := by
  funext cur first its
  induction its generalizing cur first with
  | nil => rfl
  | cons it rest ih => rw [dLowerLimitLoop, limitLoop, ih]; cases it.lo <;> cases first <;> cases cur <;> rfl

theorem dUpperLimitLoop_eq : dUpperLimitLoop = limitLoop DItem.hi (fun u c => Dec.lt c u) := by
  funext cur first its
  induction its generalizing cur first with
  | nil => rfl
  | cons it rest ih => rw [dUpperLimitLoop, limitLoop, ih]; cases it.hi <;> cases first <;> cases cur <;> rfl

theorem allFinite_ddenote (d : DRangeDesc) : AllFinite (ddenote d) := by
  intro it hit
  obtain ⟨x, _, rfl⟩ := List.mem_map.mp hit
  -- a stored limit is the `Dec` of a literal
  have fin (o : Option DLit) (l : Dec) (h : o.map DLit.toDec = some l) : l.isFin = true := by
    obtain ⟨a, _, rfl⟩ := Option.map_eq_some_iff.mp h
    rfl
  exact ⟨fin x.lo, fin x.hi⟩

end Cutplace
