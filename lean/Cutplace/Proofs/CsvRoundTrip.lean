import Cutplace.Proofs.CsvLemmas
/-
Round trip of the csv model: `parse cfg (renderTable cfg t) = some t` for every good dialect and every
table: a field inside and outside quotes (from the one-character lemmas of `CsvLemmas`), one field,
the rest of a row up to its end, rows, tables.
-/

namespace Cutplace.Csv

theorem quoted_read (cfg : Cfg) (hg : GoodCfg cfg) (f : List Char) :
    ∀ (l : L) (acc : List Char) (fields : List (List Char)) (out : List (List (List Char))),
    ∃ l', feedAll cfg (inQ l acc fields out) (f.flatMap (charBody cfg)) = some (inQ l' (f.reverse ++ acc) fields out) := by
  induction f with
  | nil => intro l acc fields out; exact ⟨l, rfl⟩
  | cons c cs ih =>
    intro l acc fields out
    obtain ⟨l1, h1⟩ := quoted_char cfg hg c l acc fields out
    obtain ⟨l2, h2⟩ := ih l1 (c :: acc) fields out
    exact ⟨l2, by rw [List.flatMap_cons, feedAll_append, h1, Option.bind_some, h2, List.reverse_cons, List.append_assoc]; rfl⟩

theorem unquoted_read (cfg : Cfg) (hg : GoodCfg cfg) (f : List Char) (hf : f.any (charQuotes cfg) = false) (hne : f ≠ []) :
    ∀ (s : S), OpenState s →
      feedAll cfg s (f.flatMap (charBody cfg)) = some ⟨.mid, ⟨.inField, f.reverse ++ s.p.field, s.p.fields⟩, s.out⟩ := by
  induction f with
  | nil => exact absurd rfl hne
  | cons c cs ih =>
    intro s hs
    rw [List.any_cons, Bool.or_eq_false_iff] at hf
    rw [List.flatMap_cons, feedAll_append, unquoted_char cfg hg c hf.1 s hs, Option.bind_some]
    by_cases hcs : cs = []
    · subst hcs; rfl
    · rw [ih hf.2 hcs _ ⟨by simp, .inl rfl⟩, List.reverse_cons, List.append_assoc]; rfl

theorem quoted_field_read (cfg : Cfg) (hg : GoodCfg cfg) (f : List Char) (l : L) (hl : l ≠ .cr) (st : St)
    (hst : st = .startField ∨ st = .startRecord) (fields : List (List Char)) (out : List (List (List Char))) :
    feedAll cfg ⟨l, ⟨st, [], fields⟩, out⟩ (cfg.quote :: f.flatMap (charBody cfg) ++ [cfg.quote]) =
      some ⟨.mid, ⟨if cfg.dq then .quoteInQuoted else .inField, f.reverse, fields⟩, out⟩ := by
  obtain ⟨l1, h1⟩ := quoted_read cfg hg f .mid [] fields out
  rw [List.append_nil] at h1
  rw [List.cons_append, feedAll_cons, feed_open_quote cfg hg l hl st hst, Option.bind_some, feedAll_append, h1, Option.bind_some,
    feedAll_cons, feed_close_quote cfg hg]; rfl

/-- **One field.** From the start of a field, feeding what the writer emits for `f` — quoted or not —
leaves the reader at the end of a field holding exactly `f`.  The last clause: the reader is still at the start of a
record only if nothing was written, and the writer writes nothing only for an empty field that is not the only one of
its row (that one it quotes); `row_rest_read` needs this before a CR LF. -/
theorem field_read (cfg : Cfg) (hg : GoodCfg cfg) (only : Bool) (f : List Char) (l : L) (hl : l ≠ .cr) (st : St)
    (hst : st = .startField ∨ st = .startRecord) (fields : List (List Char)) (out : List (List (List Char))) :
    ∃ text l' st', renderField cfg only f = some text ∧
      feedAll cfg ⟨l, ⟨st, [], fields⟩, out⟩ text = some ⟨l', ⟨st', f.reverse, fields⟩, out⟩ ∧
      FieldEnd l' st' f ∧ (st' = .startRecord → st = .startRecord ∧ only = false) := by
  unfold renderField
  rw [fieldBody_eq cfg hg f]
  simp only []
  split
  · refine ⟨_, _, _, rfl, quoted_field_read cfg hg f l hl st hst fields out, ⟨by simp, ?_⟩, ?_⟩
    · cases cfg.dq
      · exact .inl rfl
      · exact .inr (.inl rfl)
    · cases cfg.dq <;> exact fun h => by cases h
  · -- unquoted: nothing at all for an empty field
    rename_i hq
    simp only [Bool.or_eq_true, not_or, Bool.not_eq_true] at hq
    obtain ⟨⟨hany, -⟩, honly⟩ := hq
    by_cases hf0 : f = []
    · subst hf0
      exact ⟨_, _, _, rfl, rfl, ⟨hl, .inr (.inr ⟨rfl, hst⟩)⟩, fun h => ⟨h, by simpa using honly⟩⟩
    · exact ⟨_, _, _, rfl, (unquoted_read cfg hg f hany hf0 _ ⟨hl, .inr ⟨rfl, hst⟩⟩).trans (by rw [List.append_nil]),
        ⟨by simp, .inl rfl⟩, fun h => by cases h⟩

/-- **The rest of a row.** After a complete field, feeding `delim field … delim field CR LF` for the remaining fields `gs`
stores them all, emits the record and returns the reader to its initial state.  (`only` is the writer's "this is the only
field of the row"; with no further field the reader must have left the start of the record: an empty line is no record.) -/
theorem row_rest_read (cfg : Cfg) (hg : GoodCfg cfg) (only : Bool) (out : List (List (List Char))) (gs : List (List Char)) :
    ∀ (l : L) (st : St) (f : List Char) (fields : List (List Char)), FieldEnd l st f →
    (gs ≠ [] → only = false) → (gs = [] → st ≠ .startRecord) →
    ∃ text, renderFields cfg only gs false = some text ∧
      feedAll cfg ⟨l, ⟨st, f.reverse, fields⟩, out⟩ (text ++ ['\r', '\n']) =
        some ⟨.fresh, {}, (gs.reverse ++ f :: fields).reverse :: out⟩ := by
  induction gs with
  | nil => intro l st f fields h _ hnr; exact ⟨[], rfl, rowend_read cfg hg l st f fields out h (hnr rfl)⟩
  | cons g gs ih =>
    intro l st f fields h honly _
    obtain rfl := honly (List.cons_ne_nil g gs)
    obtain ⟨t1, l2, st2, hr1, hf1, he1, hsr⟩ := field_read cfg hg false g .mid (by simp) .startField (.inl rfl) (f :: fields) out
    -- behind a delimiter the reader is not at the start of a record
    obtain ⟨t2, hr2, hf2⟩ := ih l2 st2 g (f :: fields) he1 (fun _ => rfl) (fun _ h0 => by cases (hsr h0).1)
    refine ⟨cfg.delim :: t1 ++ t2, by rw [renderFields, hr1, hr2]; rfl, ?_⟩
    rw [List.append_assoc, List.cons_append, feedAll_cons, delim_read cfg hg l st f fields out h, Option.bind_some, feedAll_append, hf1,
      Option.bind_some, hf2]
    simp

/-- **One row.** From the initial state a rendered row is read back as that row and the reader is in its initial state again.
A row without fields is written as a bare CR LF, and the reader returns an empty line as a row without fields. -/
theorem row_read (cfg : Cfg) (hg : GoodCfg cfg) (row : List (List Char)) (out : List (List (List Char))) :
    ∃ text, renderRow cfg row = some text ∧ feedAll cfg ⟨.fresh, {}, out⟩ text = some ⟨.fresh, {}, row :: out⟩ := by
  rcases row with _ | ⟨f0, gs⟩
  · exact ⟨_, rfl, rfl⟩
  obtain ⟨t0, l1, st1, hr0, hf0, he0, hsr⟩ :=
    field_read cfg hg ((f0 :: gs).length == 1) f0 .fresh (by simp) .startRecord (.inr rfl) [] out
  -- a single field: were it empty it would be quoted, so the reader has left the start of the record
  obtain ⟨t1, hr1, hf1⟩ := row_rest_read cfg hg ((f0 :: gs).length == 1) out gs l1 st1 f0 [] he0 (by cases gs <;> simp)
    (fun hgs h0 => by subst hgs; cases (hsr h0).2)
  refine ⟨t0 ++ t1 ++ ['\r', '\n'], by rw [renderRow, renderFields, hr0, hr1]; rfl, ?_⟩
  rw [List.append_assoc, feedAll_append, hf0, Option.bind_some, hf1]
  simp

theorem table_read (cfg : Cfg) (hg : GoodCfg cfg) (t : List (List (List Char))) (out : List (List (List Char))) :
    ∃ text, renderTable cfg t = some text ∧ feedAll cfg ⟨.fresh, {}, out⟩ text = some ⟨.fresh, {}, t.reverse ++ out⟩ := by
  induction t generalizing out with
  | nil => exact ⟨[], rfl, by simp [feedAll]⟩
  | cons r rs ih =>
    obtain ⟨t1, hr1, hf1⟩ := row_read cfg hg r out
    obtain ⟨t2, hr2, hf2⟩ := ih (r :: out)
    refine ⟨t1 ++ t2, by simp [renderTable, hr1, hr2], ?_⟩
    rw [feedAll_append, hf1]
    simp only [Option.bind_some, hf2]
    simp

/-- **Round trip.** For every good dialect and every table, cells of any content, rows of any length: writing the table and
reading the result back yields the identical table. -/
theorem parse_renderTable (cfg : Cfg) (hg : GoodCfg cfg) (t : List (List (List Char))) :
    ∃ text, renderTable cfg t = some text ∧ parse cfg text = some t := by
  obtain ⟨text, hr, hf⟩ := table_read cfg hg t []
  refine ⟨text, hr, ?_⟩
  have : feedAll cfg {} text = some ⟨.fresh, {}, t.reverse⟩ := by simpa using hf
  simp [parse, this, finish]

/-- The round trip as C12 states it, for tables whose rows have at least one cell. -/
theorem roundtrip (cfg : Cfg) (hg : GoodCfg cfg) (t : List (List (List Char))) (_ : ∀ r ∈ t, r ≠ []) :
    ∃ text, renderTable cfg t = some text ∧ parse cfg text = some t :=
  parse_renderTable cfg hg t

end Cutplace.Csv
