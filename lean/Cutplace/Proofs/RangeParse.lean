import Cutplace.Proofs.RangeNorm
/-
`Range(description)` on a description written in the documented grammar.  One walk over the
structure of `render` shows that its text, after the two text passes, is a lexeme sequence with
the tokens `bodyToks`; the tokenizer theorem for lexeme sequences and the token loop do the rest.
-/

namespace Cutplace
open Cutplace.Spec

theorem quoted_char_ok (dq : Bool) (v : Int) (h : (LimitSp.quoted dq).Legal v) :
    Char.ofNat v.toNat ≠ '\\' ∧ Char.ofNat v.toNat ≠ quoteChar dq ∧ NoBreak [Char.ofNat v.toNat] := by
  obtain ⟨hn, hv⟩ := quoted_valid v h
  obtain ⟨h32, _, _, _, h92, hq⟩ := h
  -- the character differs from `c` because its code `v` does
  have ne : ∀ c : Char, v ≠ c.toNat → Char.ofNat v.toNat ≠ c := fun c hne e => hne (by rw [← hv, ← hn, e])
  refine ⟨ne _ h92, ?_, fun c hc => ?_⟩
  · cases dq <;> exact ne _ hq
  · rw [List.mem_singleton.mp hc]
    exact ⟨ne _ (by simp; omega), ne _ (by simp; omega), ne _ (by simp; omega)⟩

/-- A limit is written as one word, after a minus sign and blanks if it is negative. -/
theorem renderLimit_word (sp : LimitSp) (pm : Nat) {v : Int} (hl : sp.Legal v) :
    ∃ k w, Word k w ∧ renderLimit sp pm v = (if v < 0 then '-' :: Spec.blanks pm else []) ++ w ∧
      limitToks sp v = signToks v ++ [⟨k, w⟩] := by
  cases sp with
  | dec => exact ⟨_, _, .dec (natRepr_decLit v.natAbs), rfl, rfl⟩
  | hex bigX up =>
    exact ⟨_, _, .hex (by cases bigX <;> simp) (by simpa using hexDigits_ne_nil v.natAbs) (hexChars up v.natAbs),
      by simp [Spec.renderLimit], rfl⟩
  | quoted dq =>
    obtain ⟨h1, h2, h3⟩ := quoted_char_ok dq v hl
    have hv : ¬ v < 0 := by have := hl.1; omega
    exact ⟨_, _, .quoted dq h1 h2 h3, by simp [Spec.renderLimit, hv, quoteChar], by simp [limitToks, signToks, hv]⟩
  | sym caps =>
    obtain ⟨_, hlen, hletters⟩ := symText_table caps v hl
    have hv : ¬ v < 0 := by have := hl.1; omega
    exact ⟨_, _, .name (by intro h; simp [h] at hlen) hletters, by simp [Spec.renderLimit, hv, symText],
      by simp [limitToks, signToks, hv]⟩

variable {T : Str → Str} {σ : SepSp → SepSp}

theorem lexed_limit (hP : Pass T σ) {sp : LimitSp} (pm k : Nat) {v : Int} (hl : sp.Legal v) {s : Str} {ts : List Tok}
    (hd : Delim (T s)) (h : Lexed (T s) ts) :
    Lexed (T (renderLimit sp pm v ++ (Spec.blanks k ++ s))) (limitToks sp v ++ ts) := by
  obtain ⟨kind, w, hw, htext, htoks⟩ := renderLimit_word sp pm hl
  have hword : Lexed (w ++ (Spec.blanks k ++ T s)) (⟨kind, w⟩ :: ts) := .word hw (hd.blanks k) (h.blanks k)
  rw [htext, htoks, signToks]
  split
  · simp only [List.cons_append, List.append_assoc, List.nil_append, hP.blanks, hP.word hw,
      hP.cons (show Plain '-' by unfold Plain; decide)]
    exact .op (by decide) (hword.blanks pm)
  · simpa [hP.word hw, hP.blanks] using hword

theorem lexed_item (hP : Pass T fun _ => .colon) {it : ItemD} {sp : ItemSp} (hl : sp.Legal it) {s : Str} {ts : List Tok}
    (hd : Delim (T s)) (h : Lexed (T s) ts) : Lexed (T (renderItem it sp ++ s)) (itemToks it sp ++ ts) := by
  obtain ⟨lo, hi, sep, p0, pm, p1, p2, p3⟩ := sp
  have colon : ∀ {r : Str} {us : List Tok}, Lexed (T r) us → Lexed (T (renderSep sep ++ r)) (colonTok :: us) :=
    fun h => by rw [hP.sep]; exact .op (by decide) h
  have hdc : ∀ r : Str, Delim (T (renderSep sep ++ r)) := fun r => by rw [hP.sep]; exact Delim.cons (.inr (.inr rfl)) _
  have blanks : ∀ (k : Nat) {r : Str} {us : List Tok}, Lexed (T r) us → Lexed (T (Spec.blanks k ++ r)) us :=
    fun k _ _ h => by rw [hP.blanks]; exact h.blanks k
  cases it with
  | single v =>
    simp only [renderItem, itemToks, List.append_assoc]
    exact blanks p0 (lexed_limit hP pm p1 hl hd h)
  | closed l u =>
    simp only [renderItem, itemToks, List.append_assoc]
    exact blanks p0 (lexed_limit hP pm p1 hl.1 (hdc _) (colon (blanks p2 (lexed_limit hP pm p3 hl.2 hd h))))
  | from_ l =>
    simp only [renderItem, itemToks, List.append_assoc, List.cons_append]
    exact blanks p0 (lexed_limit hP pm p1 hl (hdc _) (colon (blanks p2 h)))
  | upto u =>
    simp only [renderItem, itemToks, List.append_assoc]
    exact blanks p0 (colon (blanks p2 (lexed_limit hP pm p3 hl hd h)))

/-- **Text level.** The text of a description in any legal spelling, after passes that spell every
separator as a colon, is a lexeme sequence with the tokens `bodyToks`. -/
theorem lexed_render (hP : Pass T fun _ => .colon) : ∀ (d : RangeDesc) (sps : List ItemSp), LegalSpelling d sps →
    Lexed (T (render d sps)) (bodyToks d sps)
  | [], _, _ => by rw [render, hP.nil]; exact .nil
  | [it], sps, hl => by
    have hnil : Lexed (T []) [] := by rw [hP.nil]; exact .nil
    simpa [render, bodyToks] using lexed_item hP hl.1 (by rw [hP.nil]; exact Delim.nil) hnil
  | it :: it2 :: rest, sps, hl => by
    have hcomma : T (',' :: render (it2 :: rest) sps.tail) = ',' :: T (render (it2 :: rest) sps.tail) :=
      hP.cons (by unfold Plain; decide) _
    simp only [render, bodyToks, List.append_assoc, List.singleton_append]
    exact lexed_item hP hl.1 (by rw [hcomma]; exact Delim.cons (.inr (.inl rfl)) _)
      (by rw [hcomma]; exact .op (by decide) (lexed_render hP (it2 :: rest) sps.tail hl.2))

theorem bodyToks_ne_nil {d : RangeDesc} (hne : d ≠ []) (sps : List ItemSp) : bodyToks d sps ≠ [] := by
  have limit : ∀ sp v, limitToks sp v ≠ [] := fun sp v => by cases sp <;> simp [limitToks]
  have item : ∀ it sp, itemToks it sp ≠ [] := fun it sp => by cases it <;> simp [itemToks, limit]
  match d, hne with
  | [it], _ => exact item _ _
  | it :: _ :: _, _ => simp [bodyToks]

/-- a text whose passes leave lexemes is not blank: the passes copy a blank text, and a blank text has no lexemes -/
theorem not_blank_of_lexed (hP : Pass T σ) {s : Str} {ts : List Tok} (h : Lexed (T s) ts) (hne : ts ≠ []) :
    (strip s).isEmpty = false := by
  rw [isEmpty_strip]
  refine Bool.eq_false_iff.mpr fun hs => hne (Lexed.nil_of_blank ?_ hs)
  have := hP.plain s [] fun c hc => plain_of_class (by decide) (List.all_eq_true.mp hs c hc)
  rw [hP.nil, List.append_nil] at this
  exact this ▸ h

/-- `Range(description)` looks at the description only through its lexemes: any text that, after the two
passes, is a lexeme sequence with the tokens of a well-formed description is parsed into the items that description denotes
(such a text is not blank, `not_blank_of_lexed`, so the default is not consulted). -/
theorem parse_of_lexed (s : Str) (d : RangeDesc) (sps : List ItemSp)
    (hlex : Lexed (tokenizable none false (replaceAll ['.', '.', '.'] [ellipsisChar] s)) (bodyToks d sps))
    (hw : WellFormed d) (hl : LegalSpelling d sps) (hc : ConvertibleSpelling d sps) (default : Option Str) :
    Range.parse s default = .ok (rangeOfItems (denote d)) := by
  obtain ⟨hne, hwf, hdis⟩ := hw
  have hblank := not_blank_of_lexed pass_norm hlex (bodyToks_ne_nil hne sps)
  have hparse : parseTokens ((bodyToks d sps ++ [eofTok]).length + 1) (bodyToks d sps ++ [eofTok]) [] = .ok (denote d) :=
    parseTokens_desc d sps [] _ hne hl hc hwf (by simpa using hdis) (by simp; omega)
  simp only [Range.parse, hblank, Bool.not_false, if_true, hlex.tokenize, liftLex, hparse]

/-- **`Range(description)` on the documented grammar.**  Every well-formed description (at least one
item, lower ≤ upper, items pairwise disjoint), written with any legal spelling of its limits
(decimal, hexadecimal, quoted character, symbolic name; optional minus sign; any of `...`, `:`, `…`
as separator; blanks between the tokens) and whose decimally written limits stay within CPython's `int()`
conversion limit of 4300 digits (`ConvertibleSpelling`), is accepted and parsed into exactly the items it denotes. -/
theorem parse_render (d : RangeDesc) (sps : List ItemSp) (hw : WellFormed d) (hl : LegalSpelling d sps)
    (hc : ConvertibleSpelling d sps) (default : Option Str) :
    Range.parse (render d sps) default = .ok (rangeOfItems (denote d)) :=
  parse_of_lexed _ d sps (lexed_render pass_norm d sps hl) hw hl hc default

/-- every limit of the description has fewer than `maxStrDigits` + 1 decimal digits -/
def BoundedLimits (d : RangeDesc) : Prop :=
  ∀ it ∈ d, (∀ l, it.lo = some l → l.natAbs < 10 ^ maxStrDigits) ∧ (∀ u, it.hi = some u → u.natAbs < 10 ^ maxStrDigits)

theorem limit_convertible (sp : LimitSp) (v : Int) (h : v.natAbs < 10 ^ maxStrDigits) : sp.Convertible v := by
  cases sp with
  | dec => exact digits_within_limit _ h
  | _ => trivial

theorem convertible_of_bounded (d : RangeDesc) : ∀ sps, BoundedLimits d → ConvertibleSpelling d sps := by
  induction d with
  | nil => intro _ _; trivial
  | cons it rest ih =>
    intro sps hb
    refine ⟨?_, ih sps.tail (fun x hx => hb x (by simp [hx]))⟩
    obtain ⟨h1, h2⟩ := hb it (by simp)
    cases it with
    | single v => exact limit_convertible _ v (h1 v rfl)
    | closed l u => exact ⟨limit_convertible _ l (h1 l rfl), limit_convertible _ u (h2 u rfl)⟩
    | from_ l => exact limit_convertible _ l (h1 l rfl)
    | upto u => exact limit_convertible _ u (h2 u rfl)

end Cutplace
