import Cutplace.Proofs.CidTotal
/-
C09  CIDs are accepted iff structurally sound; rejections name the offending row.

`Cid.read` is the transcription of `interface.Cid.read`: a fold over the rows with a line cursor.
Proved here, for every row list and every configuration of the per-row models: rows with an empty
first cell are ignored, cells beyond the parsed columns are ignored, the row marker is
case-insensitive (for ASCII cells), a row only ever appends one field / one check or updates the
data format (so field order is the order of the field rows), every rejection raised while reading
carries a line inside the rows read, and an accepted CID has a format and at least one field.  That
each of the 66 catalogued defects is rejected at its row is established by the exhaustive
correspondence.
-/
namespace Cutplace.Props
open Cutplace

/-- the row marker decides how a row is treated: empty (or blank) first cell = comment -/
theorem C09_comment_row_ignored (cid : Cid) (row : List Str) (w : Bool) (e : Str → Bool)
    (h : rowKind row = .comment) : readRow cid row w e = .ok cid := by
  simp [readRow, h]

/-- add `k` to the line of an outcome of the row loop -/
def shiftLine (k : Nat) : CidOut (Cid × Nat) → CidOut (Cid × Nat)
  | .ok (c, l) => .ok (c, l + k)
  | .error ⟨x, l⟩ => .error ⟨x, l.map (· + k)⟩

/-- the row loop does not depend on the starting line except for the reported lines -/
theorem readLoop_shift (w : Bool) (e : Str → Bool) (cid : Cid) (line k : Nat) (rows : List (List Str)) :
    readLoopCid w e cid (line + k) rows = shiftLine k (readLoopCid w e cid line rows) := by
  induction rows generalizing cid line with
  | nil => rfl
  | cons row rest ih =>
    simp only [readLoopCid]
    cases readRow cid row w e with
    | error x => rfl
    | ok cid' => rw [show line + k + 1 = line + 1 + k by omega]; exact ih cid' (line + 1)

theorem readLoop_append (w : Bool) (e : Str → Bool) (cid : Cid) (line : Nat) (a b : List (List Str)) :
    readLoopCid w e cid line (a ++ b) =
      (match readLoopCid w e cid line a with
       | .ok (c, l) => readLoopCid w e c l b
       | .error x => .error x) := by
  induction a generalizing cid line with
  | nil => simp [readLoopCid]
  | cons row rest ih =>
    simp only [List.cons_append, readLoopCid]
    cases readRow cid row w e with
    | error x => rfl
    | ok cid' => exact ih cid' (line + 1)

/-- **Comment rows are ignored.** Inserting a row whose first cell is empty or blank anywhere in a
CID changes neither whether it is accepted nor the interface it defines; every line reported for a
later row moves by one. -/
theorem C09_decoration_comment (w : Bool) (e : Str → Bool) (cid : Cid) (line : Nat)
    (pre post : List (List Str)) (c : List Str) (h : rowKind c = .comment) :
    readLoopCid w e cid line (pre ++ c :: post) =
      (match readLoopCid w e cid line pre with
       | .ok (c1, l) => shiftLine 1 (readLoopCid w e c1 l post)
       | .error x => .error x) := by
  rw [readLoop_append]
  cases readLoopCid w e cid line pre with
  | error x => rfl
  | ok p => exact (readLoopCid_comments w e p.1 p.2 [c] post (by simpa using h)).trans (readLoop_shift w e p.1 p.2 1 post)

/-- **Cells beyond the parsed columns are ignored**: a row that already has its marker and six data
cells behaves the same whatever follows. -/
theorem C09_trailing_cells_ignored (cid : Cid) (row extra : List Str) (w : Bool) (e : Str → Bool)
    (h : 7 ≤ row.length) : readRow cid (row ++ extra) w e = readRow cid row w e := by
  have hk : rowKind (row ++ extra) = rowKind row := by
    cases row with
    | nil => simp at h
    | cons c cs => rfl
  have hd : rowData (row ++ extra) = rowData row := by
    unfold rowData padTo6
    have h6 : 6 ≤ (row.drop 1).length := by simp; omega
    rw [List.drop_append_of_le_length (by omega), List.append_assoc, List.take_append_of_le_length h6,
      List.take_append_of_le_length h6]
  simp only [readRow, hk, hd]

/-- **The row marker is case-insensitive and may be surrounded by blanks**: for ASCII first cells only `strip(lower(cell))` matters. -/
theorem C09_marker_case_insensitive (c c' : Str) (r r' : List Str) (ha : isAscii c = true) (ha' : isAscii c' = true)
    (h : strip (lower c) = strip (lower c')) : rowKind (c :: r) = rowKind (c' :: r') := by
  simp [rowKind, ha, ha', h]

/-- **A row changes only its own part of the interface, by appending**: field rows append exactly
one field (so fields keep the order of their rows), check rows append exactly one check, data-format
rows only touch the data format, comment rows nothing. -/
theorem C09_row_effect (cid cid' : Cid) (row : List Str) (w : Bool) (e : Str → Bool)
    (h : readRow cid row w e = .ok cid') :
    (rowKind row = .comment ∧ cid' = cid) ∨
    (rowKind row = .dataFormat ∧ cid'.fields = cid.fields ∧ cid'.checks = cid.checks ∧ cid'.dataFormat.isSome) ∨
    (rowKind row = .field ∧ (∃ f, cid'.fields = cid.fields ++ [f]) ∧ cid'.checks = cid.checks ∧ cid'.dataFormat = cid.dataFormat) ∨
    (rowKind row = .check ∧ (∃ c, cid'.checks = cid.checks ++ [c]) ∧ cid'.fields = cid.fields ∧ cid'.dataFormat = cid.dataFormat) := by
  refine Ends.of_ok h ?_
  unfold readRow
  split
  · exact .ok (.inl ⟨‹_›, rfl⟩)
  · exact Ends.any.map _ fun df _ => .inr (.inl ⟨‹_›, rfl, rfl, rfl⟩)
  · exact Ends.any.map _ fun f _ => .inr (.inr (.inl ⟨‹_›, ⟨f, rfl⟩, rfl, rfl⟩))
  · exact Ends.any.map _ fun c _ => .inr (.inr (.inr ⟨‹_›, ⟨c, rfl⟩, rfl, rfl⟩))
  · exact .error ⟨⟩
  · exact .error ⟨⟩

/-- **A rejection names a row of the CID**: an error raised while reading the rows carries a line
inside the row list (the starting line plus an offset below the number of rows); which of the rows
it is the statement does not say (`readLoopCid_error`, from which it is read off, does). -/
theorem C09_rejection_names_row (w : Bool) (e : Str → Bool) (cid : Cid) (line : Nat) (rows : List (List Str))
    (err : CidErr) (h : readLoopCid w e cid line rows = .error err) :
    ∃ k, err.line = some (line + k) ∧ k < rows.length := by
  obtain ⟨k, _, _, hk, _, _, hl⟩ := readLoopCid_error w e cid line rows err h
  exact ⟨k, hl, (List.getElem?_eq_some_iff.1 hk).1⟩

/-- **An accepted CID is complete and consistent**: it has a data format that passes the
consistency rules and at least one field. -/
theorem C09_accepted_is_complete (rows : List (List Str)) (w : Bool) (e : Str → Bool) (cid : Cid)
    (h : Cid.read rows w e = .ok cid) :
    (∃ df, cid.dataFormat = some df ∧ df.validate = true) ∧ cid.fields ≠ [] := by
  refine Ends.of_ok h ?_
  unfold Cid.read
  split
  · exact .error ⟨⟩
  · split
    · exact .error ⟨⟩
    · rename_i df hd
      refine .by_cases (fun _ => .error ⟨⟩) fun hv => .by_cases (fun _ => .error ⟨⟩) fun hf => .ok ⟨⟨df, hd, by simpa using hv⟩, ?_⟩
      exact fun hnil => hf (by simp [hnil])

/-- A field row before any data-format row is refused as an interface error. -/
theorem C09_field_needs_format (cid : Cid) (cells : List Str) (w : Bool) (h : cid.dataFormat = none) :
    addFieldRow cid cells w = .error .iface := by
  simp [addFieldRow, buildField, h, Except.map]

/-- the length check of a field row, read off: in fixed format one specific length of at least 1
(lists such as `3, 5`, ranges and open ends are refused), elsewhere no negative limit -/
theorem C09_length_decl (fmt : Format) (length : Range) (h : lengthDeclOk fmt length = .ok ()) :
    (fmt = .fixed → ∃ l, length.lowerLimit = some l ∧ length.upperLimit = some l ∧ 1 ≤ l ∧ length.items.getD [] ≠ []) ∧
    (fmt ≠ .fixed → (∀ l, length.lowerLimit = some l → 0 ≤ l) ∧
                     (length.lowerLimit = none → ∀ u, length.upperLimit = some u → 0 ≤ u)) :=
  (lengthDeclOk_ends fmt length).result h

/-- **Fixed width fields have one specific length.** A field row accepted into a fixed-format CID
declares a length whose lower and upper limit are the same number, at least 1. -/
theorem C09_fixed_length_exact (cid : Cid) (cells : List Str) (w : Bool) (f : CidField) (df : DataFormat)
    (hdf : cid.dataFormat = some df) (hfix : df.format = .fixed) (h : buildField cid cells w = .ok f) :
    ∃ l, f.field.length.lowerLimit = some l ∧ f.field.length.upperLimit = some l ∧ 1 ≤ l := by
  unfold buildField at h
  rw [hdf] at h
  obtain ⟨l, h1, h2, h3, _⟩ := (C09_length_decl _ _ ((buildFieldWith_ends df cid cells w).result h).2).1 hfix
  exact ⟨l, h1, h2, h3⟩

/-- non-vacuity: a decorated three-row CID is read with its field -/
example :
    (Cid.read [["d".toList, "Format".toList, "Delimited".toList], [[]], [" F ".toList, "name".toList, [], [], [], [], [], "trailing".toList]]).map
      (fun c => c.fields.map (·.name)) = .ok ["name".toList] := Except.eq_ok_of_toOption (by decide +kernel)

/-- non-vacuity of `C09_fixed_length_exact` and its converse on examples: `5` is accepted in a fixed
CID; with a list, a range, open ends or `0` as the length the CID is refused -/
example :
    ((Cid.read [["D".toList, "Format".toList, "Fixed".toList], ["F".toList, "name".toList, [], [], "5".toList]]).toOption.map
      (fun c => c.fields.map (·.field.length.lowerLimit))) = some [some 5] := by decide +kernel
example :
    ["3, 5", "2...4", "...-1, 3...", "0"].map (fun l =>
      (Cid.read [["D".toList, "Format".toList, "Fixed".toList], ["F".toList, "name".toList, [], [], l.toList]]).toOption.isSome)
      = [false, false, false, false] := by decide +kernel

end Cutplace.Props
