import Cutplace.Proofs.RangeParse
import Cutplace.Proofs.DecRange
/-
C01  Range descriptions accept exactly the values they describe.
Property theorems only; helper lemmas live in `Cutplace/Proofs/`.
-/
namespace Cutplace.Props
open Cutplace Cutplace.Spec

/-- A value is accepted by the stored items of a description iff it lies inside at least one item,
both limits inclusive, an omitted limit meaning unbounded — for every description (any number of
items, any magnitudes) and every integer. -/
theorem C01_validate_iff (d : RangeDesc) (v : Int) :
    (rangeOfItems (denote d)).validate v = true ↔ Accepts d v :=
  validate_denote d v

/-- For arbitrary stored item lists (whatever produced them): a value is accepted iff some item contains it in
the sense of the model's own item test `Item.contains` (`_item_contains`; an item open on both sides, which no
`RangeDesc` denotes, contains nothing). -/
theorem C01_validate_items_iff (its : Items) (v : Int) :
    (rangeOfItems its).validate v = true ↔ ∃ it ∈ its, it.contains v = true := by
  simp [Range.validate, rangeOfItems, validateLoop_eq_any]

/-- The empty range (`emptyRange`: no item list, no limits) accepts every value. -/
theorem C01_empty_accepts_all (v : Int) : emptyRange.validate v = true := rfl

/-- The overall lower limit is absent exactly when some item is open below (non-empty lists; without items it is absent as
well: `limitOf_eq_none_iff`, the statement for every list, of which the four theorems of this kind are the non-empty case). -/
theorem C01_lower_absent_iff (its : Items) (h : its ≠ []) :
    lowerLimitOf its = none ↔ ∃ it ∈ its, it.lo = none := by
  rw [lowerLimitOf, lowerLimitLoop_eq]
  exact limitOf_eq_none_iff.trans (or_iff_right h)

/-- When present, the overall lower limit is the minimum of the items' lower limits: a lower
bound of all of them that one of them attains. -/
theorem C01_lower_is_min (its : Items) (m : Int) (h : lowerLimitOf its = some m) :
    (∀ it ∈ its, ∃ l, it.lo = some l ∧ m ≤ l) ∧ ∃ it ∈ its, it.lo = some m := by
  rw [lowerLimitOf, lowerLimitLoop_eq] at h
  exact limitOf_eq_some h (le := (· ≤ ·)) (ok := fun _ => True) Int.le_trans (fun a b _ _ => by split <;> omega)
    (fun _ _ _ _ => trivial)

theorem C01_upper_absent_iff (its : Items) (h : its ≠ []) :
    upperLimitOf its = none ↔ ∃ it ∈ its, it.hi = none := by
  rw [upperLimitOf, upperLimitLoop_eq]
  exact limitOf_eq_none_iff.trans (or_iff_right h)

theorem C01_upper_is_max (its : Items) (m : Int) (h : upperLimitOf its = some m) :
    (∀ it ∈ its, ∃ u, it.hi = some u ∧ u ≤ m) ∧ ∃ it ∈ its, it.hi = some m := by
  rw [upperLimitOf, upperLimitLoop_eq] at h
  exact limitOf_eq_some h (le := (· ≥ ·)) (ok := fun _ => True) (fun h1 h2 => Int.le_trans h2 h1)
    (fun a b _ _ => by split <;> omega) (fun _ _ _ _ => trivial)

/-- **Every well-formed description is accepted and means what it says.**  For every description
with at least one item, `lower ≤ upper` in each item and pairwise disjoint items, written in any
spelling `Spec.render` produces (limits as decimal or `0x`/`0X` hexadecimal integers with optional minus
sign, no leading zeros, hex digits all lower or all upper case, as literally quoted single characters or as
the symbolic names cr/ff/lf/tab/vt all lower or all upper case; `...`, `:` or `…` as separator; any number of
blanks around the tokens), `Range(text)` succeeds, accepts a value exactly when it lies in
one of the items, and stores the items in the order written.  Limits are bounded by CPython's
`int()` conversion limit of 4300 decimal digits (`BoundedLimits`); beyond it the real code refuses
the text (see the known finding). -/
theorem C01_parse_render (d : RangeDesc) (sps : List ItemSp) (hw : WellFormed d) (hl : LegalSpelling d sps)
    (hb : BoundedLimits d) (default : Option Str) :
    ∃ r, Range.parse (render d sps) default = .ok r ∧ r.items = some (denote d) ∧
      (∀ v, r.validate v = true ↔ Accepts d v) ∧
      r.lowerLimit = lowerLimitOf (denote d) ∧ r.upperLimit = upperLimitOf (denote d) :=
  ⟨rangeOfItems (denote d), parse_render d sps hw hl (convertible_of_bounded d sps hb) default, rfl,
    fun v => C01_validate_iff d v, rfl, rfl⟩

/-- non-vacuity of `C01_parse_render`: a description using every spelling is well formed and legally spelled
(its first two hypotheses), and this is its text -/
example :
    let d : RangeDesc := [.upto (-5), .single 65, .closed 9 13, .from_ 100]
    let sps : List ItemSp := [⟨.dec, .dec, .ellipsis, (1, 2, 0, 1, 0)⟩, ⟨.quoted true, .dec, .dots, (0, 0, 1, 0, 0)⟩,
      ⟨.sym false, .sym true, .colon, (1, 0, 1, 1, 1)⟩, ⟨.hex true false, .dec, .dots, (0, 0, 0, 0, 2)⟩]
    WellFormed d ∧ LegalSpelling d sps ∧
      render d sps = " … -  5,\"A\" , tab : CR ,0X64...".toList := by
  decide +kernel

/-- non-vacuity: a three item description with open ends meets the hypotheses and is decided -/
example : Accepts [.upto (-5), .single 0, .closed 3 9] 4 ∧ ¬ Accepts [.upto (-5), .single 0, .closed 3 9] 2 ∧
    lowerLimitOf (denote [.upto (-5), .single 0, .closed 3 9]) = none ∧
    upperLimitOf (denote [.upto (-5), .single 0, .closed 3 9]) = some 9 := by decide +kernel

/-! ### decimal ranges -/

/-- `<=` between two `decimal.Decimal` values, as the model of `DecimalRange` evaluates it (coefficients scaled to the
smaller exponent), is `≤` between the rational numbers `± coefficient * 10^exponent` they denote - for every
coefficient and every exponent, positive or negative. -/
theorem C01_decimal_order (n1 : Bool) (m1 : Nat) (e1 : Int) (n2 : Bool) (m2 : Nat) (e2 : Int) :
    Dec.le? (.fin n1 m1 e1) (.fin n2 m2 e2) = some (decide ((Dec.fin n1 m1 e1).toRat ≤ (Dec.fin n2 m2 e2).toRat)) :=
  le?_fin n1 m1 e1 n2 m2 e2

/-- **Decimal ranges obey the same rule**: a decimal value is accepted by the stored items of a decimal range iff it
lies inside at least one item, both limits inclusive, an omitted limit meaning unbounded, in the order of the rational
numbers - whatever the number of fraction digits limits and value are written with (`1.5`, `1.50` and `1.500` are the
same value).  Stated for values written as literals (no exponent part); `dValidateLoop_fin` is the same fact for every finite
`Decimal`, `1E+3` included. -/
theorem C01_decimal_validate_iff (d : DRangeDesc) (v : DLit) :
    ({ items := some (ddenote d) } : DecimalRange).validate v.toDec = some true ↔ DAccepts d v.toRat := by
  simp only [DecimalRange.validate, dValidateLoop_denote, Option.some.injEq, decide_eq_true_eq]

/-- a decimal range never fails with `InvalidOperation` on a literal value: it accepts or refuses -/
theorem C01_decimal_validate_total (d : DRangeDesc) (v : DLit) :
    ∃ b, ({ items := some (ddenote d) } : DecimalRange).validate v.toDec = some b :=
  ⟨_, dValidateLoop_denote d v⟩

/-- the overall lower limit of a decimal range is absent iff some item is open below -/
theorem C01_decimal_lower_absent_iff (its : List DItem) (h : its ≠ []) :
    dLowerLimitOf its = none ↔ ∃ it ∈ its, it.lo = none := by
  rw [dLowerLimitOf, dLowerLimitLoop_eq]
  exact limitOf_eq_none_iff.trans (or_iff_right h)

/-- otherwise it is the minimum of the lower limits, in the order of the rationals, and is attained -/
theorem C01_decimal_lower_is_min (its : List DItem) (hf : AllFinite its) (m : Dec) (h : dLowerLimitOf its = some m) :
    (∀ it ∈ its, ∃ l, it.lo = some l ∧ m.toRat ≤ l.toRat) ∧ ∃ it ∈ its, it.lo = some m := by
  rw [dLowerLimitOf, dLowerLimitLoop_eq] at h
  exact limitOf_eq_some h (le := fun a b : Dec => a.toRat ≤ b.toRat) Rat.le_trans lt_total (fun it hit => (hf it hit).1)

theorem C01_decimal_upper_absent_iff (its : List DItem) (h : its ≠ []) :
    dUpperLimitOf its = none ↔ ∃ it ∈ its, it.hi = none := by
  rw [dUpperLimitOf, dUpperLimitLoop_eq]
  exact limitOf_eq_none_iff.trans (or_iff_right h)

theorem C01_decimal_upper_is_max (its : List DItem) (hf : AllFinite its) (m : Dec) (h : dUpperLimitOf its = some m) :
    (∀ it ∈ its, ∃ u, it.hi = some u ∧ u.toRat ≤ m.toRat) ∧ ∃ it ∈ its, it.hi = some m := by
  rw [dUpperLimitOf, dUpperLimitLoop_eq] at h
  exact limitOf_eq_some h (le := fun a b : Dec => b.toRat ≤ a.toRat) (fun h1 h2 => Rat.le_trans h2 h1)
    (fun a b ha hb => lt_total b a hb ha) (fun it hit => (hf it hit).2)

/-- non-vacuity: `-1.50...0.25, 2` accepts -1.5 and 0.250, refuses 0.26; limits -1.50 and 2; the items are finite -/
example :
    let d : DRangeDesc := [.closed ⟨true, 150, 2⟩ ⟨false, 25, 2⟩, .single ⟨false, 2, 0⟩]
    DAccepts d (DLit.toRat ⟨true, 15, 1⟩) ∧ DAccepts d (DLit.toRat ⟨false, 250, 3⟩) ∧ ¬ DAccepts d (DLit.toRat ⟨false, 26, 2⟩) ∧
      dLowerLimitOf (ddenote d) = some (.fin true 150 (-2)) ∧ dUpperLimitOf (ddenote d) = some (.fin false 2 0) ∧
      AllFinite (ddenote d) := by
  refine ⟨by decide +kernel, by decide +kernel, by decide +kernel, by decide +kernel, by decide +kernel, allFinite_ddenote _⟩

/-- `Range(description, default)`: a blank description stands for the default (which the code asserts not to be blank),
any other description is used as it is -/
theorem C01_default (description dflt : Str) (hd : (strip dflt).isEmpty = false) :
    ((strip description).isEmpty = true → Range.parse description (some dflt) = Range.parse dflt) ∧
    ((strip description).isEmpty = false → Range.parse description (some dflt) = Range.parse description) := by
  constructor
  · intro h
    simp [Range.parse, h, hd]
  · intro h
    simp [Range.parse, h]

end Cutplace.Props
