import Cutplace.Proofs.SqlLemmas
/-
C19  Generated SQL DDL mirrors the CID.
-/
namespace Cutplace.Props
open Cutplace Cutplace.Spec

/-- exactly one column per field, in CID order, carrying the field's name -/
theorem C19_columns (isKeyword : String → Bool) (fields : List SqlField) :
    (createTableColumns isKeyword fields).map (·.name) = fields.map (·.name) := by
  simp [createTableColumns, Function.comp_def]

/-- a name is quoted exactly when the keyword test handed in (`isKeyword`, any test) holds of its lower-case form -/
theorem C19_quoting (isKeyword : String → Bool) (fields : List SqlField) :
    (createTableColumns isKeyword fields).map (·.quoted) = fields.map (fun f => isKeyword f.name.toLower) := by
  simp [createTableColumns, Function.comp_def]

/-- NOT NULL exactly for the fields not allowed to be empty -/
theorem C19_not_null (isKeyword : String → Bool) (fields : List SqlField) :
    (createTableColumns isKeyword fields).map (·.notNull) = fields.map (fun f => !f.allowEmpty) := by
  simp [createTableColumns, Function.comp_def]

/-- **Partial** (Transact-SQL): for ranges without negative values, or with an adjusted limit above
255, the chosen integer type stores both limits — up to the 64 bit boundary.  (Excluded: negative lower limits small
enough for `tinyint`, see `C19_transact_tinyint_counterexample`; limits beyond `bigint` are left to `C19_int_fits_decimal`.) -/
theorem C19_int_fits_transact_partial (lo hi : Int) (hle : lo ≤ hi)
    (h : 0 ≤ lo ∨ ansiIntLimit lo hi > MAX_TINYINT) (hb : ansiIntLimit lo hi ≤ MAX_BIGINT) :
    canStore .transact (intColumnType .transact (ansiIntLimit lo hi)) lo = true ∧
    canStore .transact (intColumnType .transact (ansiIntLimit lo hi)) hi = true :=
  canStore_limits _ lo hi (fun _ hm => by simp only [MAX_TINYINT] at h hm; omega) nofun
    fun hbig => by simp only [reduceCtorEq, if_false, MAX_BIGINT] at hbig hb; omega

/-- **Partial** (DB2): up to the 64 bit boundary the chosen type stores both limits. -/
theorem C19_int_fits_db2_partial (lo hi : Int) (hle : lo ≤ hi) (hb : ansiIntLimit lo hi ≤ MAX_BIGINT) :
    canStore .db2 (intColumnType .db2 (ansiIntLimit lo hi)) lo = true ∧
    canStore .db2 (intColumnType .db2 (ansiIntLimit lo hi)) hi = true :=
  canStore_limits _ lo hi nofun nofun fun hbig => by simp only [reduceCtorEq, if_false, MAX_BIGINT] at hbig hb; omega

/-- **Partial** (ANSI and PL/SQL): within 32 bits the chosen type (`int`) stores both limits. -/
theorem C19_int_fits_ansi_pl_partial (d : Dialect) (hd : d = .ansi ∨ d = .pl) (lo hi : Int) (hle : lo ≤ hi)
    (hb : ansiIntLimit lo hi ≤ MAX_INTEGER) :
    canStore d (intColumnType d (ansiIntLimit lo hi)) lo = true ∧
    canStore d (intColumnType d (ansiIntLimit lo hi)) hi = true :=
  canStore_limits d lo hi (fun h => by rcases hd with rfl | rfl <;> cases h) (fun _ => hb) fun hbig => by
    simp only [MAX_INTEGER, MAX_BIGINT] at hbig hb; split at hbig <;> omega

/-- Two places where the full statement ("a type able to store both limits") still fails: -/
theorem C19_transact_tinyint_counterexample :
    canStore .transact (intColumnType .transact (ansiIntLimit (-5) 5)) (-5) = false := by decide +kernel
theorem C19_ansi_beyond_int_counterexample :
    canStore .ansi (intColumnType .ansi (ansiIntLimit 0 2147483648)) 2147483648 = false := by decide +kernel

/-- **Beyond the integer types** (since b3fd201: the precision is the number of digits, before it was the limit itself):
when the range exceeds the biggest integer type of the dialect, the column is `decimal(p[, 0])` / `number(p, 0)` with
`p = decimalDigitsFor limit`, and it stores both limits whenever `p` is a precision the dialect allows. -/
theorem C19_int_fits_decimal (d : Dialect) (hd : d ≠ .ansi) (lo hi : Int) (hle : lo ≤ hi)
    (hbig : if d = .pl then ansiIntLimit lo hi > MAX_INTEGER else ansiIntLimit lo hi > MAX_BIGINT)
    (hp : decimalDigitsFor (ansiIntLimit lo hi) ≤ maxPrecision d) :
    canStore d (intColumnType d (ansiIntLimit lo hi)) lo = true ∧
    canStore d (intColumnType d (ansiIntLimit lo hi)) hi = true :=
  canStore_limits d lo hi (fun h hm => by subst h; simp only [reduceCtorEq, if_false, MAX_BIGINT, MAX_TINYINT] at hbig hm; omega)
    (absurd · hd) fun _ => hp

/-- the boundary case that needs the extra digit: `-10^19` has 20 digits although its sign-adjusted limit has 19 -/
example : canStore .db2 (intColumnType .db2 (ansiIntLimit (-10000000000000000000) 5)) (-10000000000000000000) = true := by decide +kernel

/-- non-vacuity -/
example : canStore .transact (intColumnType .transact (ansiIntLimit (-32768) 32767)) (-32768) = true := by decide +kernel

end Cutplace.Props
