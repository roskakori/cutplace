import Cutplace.Proofs.EngineLemmas
/-
C06  Error-handling modes agree with each other and account for every row.
All theorems hold for every column list, every check list (any state type), every table, every
header / limit setting, every starting state and with or without a container fault at the end.
-/
namespace Cutplace.Props
open Cutplace

variable {σ : Type}

/-- `'continue'` produces exactly the accepted rows of `'yield'`, ends the same way, leaves the
same check states and counters and makes the same calls. -/
theorem C06_continue (header : Nat) (limit : Option Nat) (cols : List Column) (checks : List (Check σ))
    (fault : Bool) (n : Nat) (rows : List Row) (st : RState σ) :
    let y := readLoop ⟨.yield, header, limit⟩ cols checks fault n rows st
    let c := readLoop ⟨.continue, header, limit⟩ cols checks fault n rows st
    c.events = y.events.filter Event.isRow ∧ c.final = y.final ∧ c.st.sts = y.st.sts ∧
      c.st.accepted = y.st.accepted ∧ c.st.rejected = y.st.rejected ∧ c.log = y.log := by
  induction n, rows, st using readLoop_induction header limit cols checks with
  | nil => simp [readLoop_nil]
  | skip hh ih => simpa only [readLoop_skip, hh] using ih
  | beyond hh hl ih => simpa [readLoop_beyond, hh, hl, List.filter_cons] using ih
  | accept hh hl hv ih => simpa [readLoop_accept hv, hh, hl, List.filter_cons] using ih
  | reject hh hl hv ih => simpa [readLoop_reject hv, hh, hl] using ih

def firstErr : List Event → Option (Nat × RowErr)
  | [] => none
  | .row _ :: rest => firstErr rest
  | .err l e :: _ => some (l, e)

/-- `'raise'` produces the rows before the first rejection of `'yield'` and then raises that same
error (same row, same kind, same culprit); without a rejection it ends exactly like `'yield'`. -/
theorem C06_raise (header : Nat) (limit : Option Nat) (cols : List Column) (checks : List (Check σ))
    (fault : Bool) (n : Nat) (rows : List Row) (st : RState σ) :
    let y := readLoop ⟨.yield, header, limit⟩ cols checks fault n rows st
    let r := readLoop ⟨.raise, header, limit⟩ cols checks fault n rows st
    r.events = y.events.takeWhile Event.isRow ∧
      r.final = (match firstErr y.events with
                 | some (l, e) => Final.raised l e
                 | none => y.final) := by
  induction n, rows, st using readLoop_induction header limit cols checks with
  | nil => simp [readLoop_nil, firstErr]
  | skip hh ih => simpa only [readLoop_skip, hh] using ih
  | beyond hh hl ih => simpa [readLoop_beyond, hh, hl, firstErr, List.takeWhile_cons] using ih
  | accept hh hl hv ih =>
    simpa [readLoop_accept hv, hh, hl, firstErr, List.takeWhile_cons] using ih
  | reject hh hl hv ih => simp [readLoop_reject hv, hh, hl, firstErr]

/-- The relation between the raw rows from line `n` on and a list of events: no event for a header row, and
for every later row one event, in input order: the row itself, unchanged, or one error (of any kind) carrying
that row's line (header rows are counted in the line). -/
inductive EventsMatch (header : Nat) : Nat → List Row → List Event → Prop
  | nil (n : Nat) : EventsMatch header n [] []
  | skip (n : Nat) (r : Row) (rs : List Row) (evs : List Event) :
      n + 1 ≤ header → EventsMatch header (n + 1) rs evs → EventsMatch header n (r :: rs) evs
  | row (n : Nat) (r : Row) (rs : List Row) (evs : List Event) :
      header < n + 1 → EventsMatch header (n + 1) rs evs → EventsMatch header n (r :: rs) (.row r :: evs)
  | err (n : Nat) (r : Row) (rs : List Row) (evs : List Event) (e : RowErr) :
      header < n + 1 → EventsMatch header (n + 1) rs evs → EventsMatch header n (r :: rs) (.err n e :: evs)

/-- In `'yield'` mode there is exactly one event per data row, in input order: the row itself,
unchanged, or one error located at that row's line (header rows are counted in the line). -/
theorem C06_yield_order (header : Nat) (limit : Option Nat) (cols : List Column) (checks : List (Check σ))
    (fault : Bool) (n : Nat) (rows : List Row) (st : RState σ) :
    EventsMatch header n rows (readLoop ⟨.yield, header, limit⟩ cols checks fault n rows st).events := by
  induction n, rows, st using readLoop_induction header limit cols checks with
  | nil => exact .nil _
  | skip hh ih => simpa only [readLoop_skip, hh] using .skip _ _ _ _ hh ih
  | beyond hh hl ih => simpa only [readLoop_beyond, hh, hl] using .row _ _ _ _ hh ih
  | accept hh hl hv ih => simpa only [readLoop_accept hv, hh, hl] using .row _ _ _ _ hh ih
  | reject hh hl hv ih => simpa only [readLoop_reject hv, hh, hl] using .err _ _ _ _ _ hh ih

/-- After a complete pass in `'yield'` or `'continue'` mode the accepted and rejected counters add
up to the number of data rows (rows after the header). -/
theorem C06_counters (mode : Mode) (hm : mode ≠ .raise) (header : Nat) (limit : Option Nat)
    (cols : List Column) (checks : List (Check σ)) (fault : Bool) (n : Nat) (rows : List Row) (st : RState σ) :
    let r := readLoop ⟨mode, header, limit⟩ cols checks fault n rows st
    r.st.accepted + r.st.rejected = st.accepted + st.rejected + ((n + rows.length) - max header n) := by
  -- `hh` says on which side of the header `n` is; with `max` and the subtraction rewritten `omega` has little to do
  induction n, rows, st using readLoop_induction header limit cols checks with
  | nil => simp [readLoop_nil]; omega
  | skip hh ih =>
    simp only [readLoop_skip, hh, List.length_cons, Nat.max_eq_left, Nat.le_of_succ_le hh] at ih ⊢; omega
  | beyond hh hl ih =>
    simp only [readLoop_beyond, hh, hl, List.length_cons, Nat.max_eq_right, Nat.le_of_lt hh, Nat.le_of_lt_succ hh,
      Nat.add_sub_cancel_left] at ih ⊢; omega
  | accept hh hl hv ih =>
    simp only [readLoop_accept hv, hh, hl, List.length_cons, Nat.max_eq_right, Nat.le_of_lt hh, Nat.le_of_lt_succ hh,
      Nat.add_sub_cancel_left] at ih ⊢; omega
  | reject hh hl hv ih =>
    simp only [readLoop_reject hv, hh, hl, List.length_cons, Nat.max_eq_right, Nat.le_of_lt hh, Nat.le_of_lt_succ hh,
      Nat.add_sub_cancel_left] at ih ⊢
    cases mode with
    | raise => exact absurd rfl hm
    | yield | «continue» => dsimp only; omega

/-- `Reader.rows()` starts with zeroed counters, so a full pass over `rows` accounts for every data row -/
theorem C06_counters_total (mode : Mode) (hm : mode ≠ .raise) (header : Nat) (limit : Option Nat)
    (cols : List Column) (checks : List (Check σ)) (fault : Bool) (rows : List Row) (before : List σ) :
    let r := readRows ⟨mode, header, limit⟩ cols checks fault rows before
    r.st.accepted + r.st.rejected = rows.length - header := by
  have := C06_counters mode hm header limit cols checks fault 0 rows ⟨checks.map (·.reset), 0, 0⟩
  simp [readRows] at this ⊢
  omega

/-- A container fault after the listed rows ends the run with a data-format error in every mode
that reaches it (`'raise'` may stop earlier at a rejected row). -/
theorem C06_container_fault (mode : Mode) (header : Nat) (limit : Option Nat)
    (cols : List Column) (checks : List (Check σ)) (n : Nat) (rows : List Row) (st : RState σ) :
    let r := readLoop ⟨mode, header, limit⟩ cols checks true n rows st
    r.final = .format (n + rows.length) ∨ (mode = .raise ∧ ∃ l e, r.final = .raised l e) := by
  induction n, rows, st using readLoop_induction header limit cols checks with
  | nil => simp [readLoop_nil]
  | skip hh ih => simpa [readLoop_skip, hh, Nat.succ_add_eq_add_succ] using ih
  | beyond hh hl ih => simpa [readLoop_beyond, hh, hl, Nat.succ_add_eq_add_succ] using ih
  | accept hh hl hv ih =>
    simpa [readLoop_accept hv, hh, hl, Nat.succ_add_eq_add_succ] using ih
  | reject hh hl hv ih =>
    simp only [readLoop_reject hv, hh, hl]
    cases mode with
    | raise => simp
    | yield | «continue» => simpa [Nat.succ_add_eq_add_succ] using ih

/-- non-vacuity: one column, a header row and three data rows, the middle one rejected -/
example :
    let col : Column := ⟨fun v => .inr v, fun v => v != ['x']⟩
    (readLoop (σ := Unit) ⟨.yield, 1, none⟩ [col] [] false 0 [[['h']], [['a']], [['x']], [['b']]] ⟨[], 0, 0⟩).events
      = [.row [['a']], .err 2 (.field 0), .row [['b']]] := by
  decide

/-- **A malformed container changes nothing before it is reached**: reading rows that are followed by a container fault delivers
the same events, makes the same calls and leaves the same counters and check states as reading the rows alone - in every mode;
only the way the pass ends differs (`C06_container_fault`). -/
theorem C06_fault_transparent (cfg : ReaderCfg) (cols : List Column) (checks : List (Check σ)) (n : Nat) (rows : List Row) (st : RState σ) :
    (readLoop cfg cols checks true n rows st).events = (readLoop cfg cols checks false n rows st).events ∧
    (readLoop cfg cols checks true n rows st).log = (readLoop cfg cols checks false n rows st).log ∧
    (readLoop cfg cols checks true n rows st).st = (readLoop cfg cols checks false n rows st).st := by
  have h := readLoop_append cfg cols checks true [] n rows st
  rw [List.append_nil] at h
  rw [h]
  dsimp only
  split <;> simp [readLoop_nil]

end Cutplace.Props
