import Cutplace.Proofs.CharSpelling
/-
C11  Data-format properties mean what the CID says; contradictions are refused.
-/
namespace Cutplace.Props
open Cutplace Cutplace.Spec

def allNames : List String := propertyNames ++ ["format", "is_valid"]

/-- Applicability: among the names the mechanism knows at all, a name is in the model's attribute
list of a format (`attributeNames`, with `format` and `is_valid` left out) exactly when the documented
table `propertyApplies` says it applies (14 names x 4 formats, decided exhaustively). -/
theorem C11_applicable : ∀ f ∈ [Format.delimited, .fixed, .excel, .ods], ∀ n ∈ allNames,
    ((attributeNames f).contains n && n != "format" && n != "is_valid") = propertyApplies f n := by decide +kernel

/-- Every attribute the mechanism consults is one of the documented names (nothing else can be set). -/
theorem C11_no_other_names : ∀ f ∈ [Format.delimited, .fixed, .excel, .ods], ∀ n ∈ attributeNames f, n ∈ allNames := by decide +kernel

/-- A name outside the format's table is refused with an interface error, whatever the value. -/
theorem C11_inapplicable_refused (df : DataFormat) (name value : Str) (k : Bool)
    (h : (attributeNames df.format).contains (propertyKey name) = false) :
    df.setProperty name value k = .error .iface := by
  simp only [DataFormat.setProperty, h, Bool.not_false, if_true]

/-- Completing a CID accepts the settings iff they are consistent (`Spec.consistent`): for delimited
and fixed data decimal and thousands separators differ, and for delimited data the item delimiter
differs from the quote character, the escape character, the line delimiter, line feed and carriage
return, and the line delimiter from the quote and escape characters. -/
theorem C11_validate_iff (df : DataFormat) : df.validate = consistent df := by
  unfold DataFormat.validate consistent
  cases df.format <;> simp <;> grind

/-- Unset properties take their documented defaults. -/
theorem C11_defaults :
    (DataFormat.create "delimited".toList).map (fun d => (d.header, d.decimalSep, d.thousandsSep, d.itemDelim, d.quote, d.escape, d.lineDelim))
      = .ok (0, '.', none, ',', '"', '"', .any) ∧
    (DataFormat.create "fixed".toList).map (fun d => (d.header, d.decimalSep, d.thousandsSep, d.lineDelim)) = .ok (0, '.', none, .any) ∧
    (DataFormat.create "excel".toList).map (fun d => (d.header, d.sheet)) = .ok (0, 1) ∧
    (DataFormat.create "ods".toList).map (fun d => (d.header, d.sheet)) = .ok (0, 1) ∧
    (DataFormat.create "csv".toList).map (·.format) = .ok .delimited ∧
    DataFormat.create "nosuch".toList = .error .iface := ⟨rfl, rfl, rfl, rfl, rfl, rfl⟩

/-- Header: an ASCII value is accepted iff it is an integer literal that is not negative. -/
theorem C11_header_iff (df : DataFormat) (value : Str) (k : Bool) (ha : isAscii value = true) :
    (∃ df', df.setProperty "header".toList value k = .ok df') ↔ ∃ i : Int, pyIntBase10 value = some i ∧ 0 ≤ i := by
  have hset : df.setProperty "header".toList value k = (validatedIntAtLeast0 value).map (fun h => { df with header := h }) :=
    rfl
  rw [hset]
  refine Iff.trans ?_ (validatedIntAtLeast0_ge ha 0)
  cases validatedIntAtLeast0 value <;> simp [Except.map]

/-- Sheet (Excel and ODS formats): an ASCII value is accepted iff it is an integer literal that is at least 1. -/
theorem C11_sheet_iff (df : DataFormat) (value : Str) (k : Bool) (ha : isAscii value = true)
    (hf : df.format = .excel ∨ df.format = .ods) :
    (∃ df', df.setProperty "sheet".toList value k = .ok df') ↔ ∃ i : Int, pyIntBase10 value = some i ∧ 1 ≤ i := by
  have hn : (attributeNames df.format).contains "sheet" = true := by rcases hf with h | h <;> rw [h] <;> decide
  have hset : df.setProperty "sheet".toList value k = match validatedIntAtLeast0 value with
      | .error e => .error e
      | .ok s => if s ≥ 1 then .ok { df with sheet := s } else .error .iface := by
    simp only [DataFormat.setProperty, show propertyKey "sheet".toList = "sheet" by decide, hn]
    rfl
  rw [hset]
  refine Iff.trans ?_ (validatedIntAtLeast0_ge ha 1)
  cases validatedIntAtLeast0 value with
  | error e => simp
  | ok n => by_cases h : n ≥ 1 <;> simp [h]

/-- A character given literally (a single character that is neither white space nor a digit) denotes itself. -/
theorem C11_spelling_literal (c : Char) (hs : isPySpace c = false) (hd : isAsciiDigit c = false) :
    validatedCharacterCode [c] = .ok c.toNat := by
  have : strip [c] = [c] := strip_of_no_space _ (by simpa using hs)
  unfold validatedCharacterCode
  simp [this, hd]

/-- the range-limit spelling that corresponds to a character spelling -/
def limitSpelling : CharSpelling → Option LimitSp
  | .decimal => some .dec
  | .hex bigX up => some (.hex bigX up)
  | .quoted dq => some (.quoted dq)
  | .symbolic caps => some (.sym caps)
  | _ => none

/-- **The spellings of a character are interchangeable.** For every code point `c` and each of the
spellings decimal number, `0x`/`0X` hexadecimal number (digits in either case), quoted character
(either quote) and symbolic name (either case) that can express `c`, `_validated_character` returns
the character `c` itself — so all of them denote the same character as the literal spelling
(`C11_spelling_literal`).  Of the backslash-escape spellings inside quotes, `'\xHH'` is proved for all 256 codes
(`C11_escaped_hex`); `'\uHHHH'` is checked by the exhaustive correspondence only. -/
theorem C11_spellings (sp : CharSpelling) (lsp : LimitSp) (hsp : limitSpelling sp = some lsp) (c : Nat)
    (hl : sp.legal c = true) : validatedCharacter (spellChar sp c) = .ok (Char.ofNat c) := by
  have hscalar : c < 0x110000 ∧ ¬ (0xD800 ≤ c ∧ c ≤ 0xDFFF) := by
    unfold CharSpelling.legal at hl
    simp only [Bool.and_eq_true, decide_eq_true_eq, Bool.not_eq_true'] at hl
    exact ⟨hl.1.1, by simpa using hl.1.2⟩
  have hconv : lsp.Convertible (c : Int) := limit_convertible lsp c (by
    -- a code point is below 0x110000, far inside `int()`'s limit of 4300 digits: any power of ten between them does
    have h7 : c < 10 ^ 7 := by simp; omega
    exact Nat.lt_of_lt_of_le h7 (Nat.pow_le_pow_right (by decide) (by decide)))
  have key : ∀ (hlegal : lsp.Legal (c : Int)) (htext : spellChar sp c = renderLimit lsp 0 (c : Int)),
      validatedCharacter (spellChar sp c) = .ok (Char.ofNat c) := by
    intro hlegal htext
    unfold validatedCharacter
    rw [htext, validatedCharacterCode_limit lsp 0 (c : Int) (by omega) hlegal hconv]
    exact pyChr_natCast hscalar.1 hscalar.2
  cases sp <;> cases hsp
  case decimal => exact key trivial (by simp [spellChar, Spec.renderLimit])
  case hex bigX up => exact key trivial (by simp [spellChar, Spec.renderLimit])
  case quoted dq =>
    apply key
    · unfold CharSpelling.legal at hl
      simp only [Bool.and_eq_true, decide_eq_true_eq, bne_iff_ne] at hl
      obtain ⟨_, ⟨⟨h32, h127⟩, h92⟩, hq⟩ := hl
      refine ⟨by omega, by omega, by omega, by omega, by omega, ?_⟩
      cases dq <;> simp at hq ⊢ <;> omega
    · simp [spellChar, Spec.renderLimit]
  case symbolic caps =>
    apply key
    · unfold CharSpelling.legal at hl
      simp only [Bool.and_eq_true, decide_eq_true_eq] at hl
      exact ⟨by omega, by omega⟩
    · simp [spellChar, Spec.renderLimit]

/-- non-vacuity: the tabulator in six spellings -/
example : ["9", "0x9", "0X09", "'\t'", "tab", "TAB"].map (fun s => validatedCharacter s.toList) =
    [.ok '\t', .ok '\t', .ok '\t', .ok '\t', .ok '\t', .ok '\t'] := by rfl

/-- non-vacuity: a contradictory delimited format (item delimiter = quote character) is refused -/
example : ({ format := .delimited, itemDelim := '"' } : DataFormat).validate = false := by decide

/-- the escaped spelling `'\xHH'` (either quote) denotes the character with that code, for all 256 codes
(`validatedCharacter_escapedHex`, at the two lower-case digits `hexPad` writes) -/
theorem C11_escaped_hex (dq : Bool) (c : Nat) (hc : c < 256) :
    validatedCharacter (spellChar (.escapedHex dq) c) = .ok (Char.ofNat c) := by
  obtain ⟨h1, v1⟩ := hexDigitChar_facts false (c / 16) (by omega)
  obtain ⟨h2, v2⟩ := hexDigitChar_facts false (c % 16) (by omega)
  have h := validatedCharacter_escapedHex dq h1 h2
  rw [v1, v2, Nat.div_add_mod' c 16] at h
  rw [← h, spellChar, hexPad_two hc]
  cases dq <;> rfl

/-- `C11_escaped_hex` as one Boolean test over the table of all 256 codes and both quotes -/
theorem C11_escaped_hex_table : ((List.range 256).all (fun c =>
    (match validatedCharacter (spellChar (.escapedHex false) c) with | .ok ch => ch == Char.ofNat c | _ => false) &&
    (match validatedCharacter (spellChar (.escapedHex true) c) with | .ok ch => ch == Char.ofNat c | _ => false))) = true := by
  simp only [List.all_eq_true, List.mem_range]
  intro c hc
  simp [C11_escaped_hex _ c hc]

end Cutplace.Props
