import Cutplace.Props.C09
import Cutplace.Props.C18
/-
C10  CID and data problems surface as cutplace errors, never as internal failures.

In the model every function returns `Out α = Except PyExn α`, and every `assert`, `int()`, `chr()`,
`Decimal()`, tokenizer or codec call whose failure depends on CID or data content is a branch that
returns the Python exception class the code would raise.  C10 says that, for the content-dependent
paths, only `iface` / `data _` may come out.  Proved here: the parts whose error sets are small enough
to enumerate (field names, the data-format rows, the row dispatch, the command line's exit code).
`C10_cid_read_total` then covers the whole of `Cid.read`: for every list of rows, the model ends in
a CID, an `InterfaceError`, the recorded `OverflowError` finding, or "outside the modelled fragment";
`C10_field_value_total` says that no value can make a field of a CID that was read raise anything
but a (data) rejection, unless the value is outside the modelled fragment (`unsupported`).  That the
model predicts the class the real code raises is the correspondence's job (the exhaustive
hostile-value enumeration compares them for every cell of every row kind).
-/
namespace Cutplace.Props
open Cutplace

/-- cutplace's own errors (interface or data), or "outside the modelled fragment": what
`C10_int_property_total` concludes (the theorems on fields and on `Cid.read` list their errors themselves) -/
def Tolerated (e : PyExn) : Prop := e.isCutplace = true ∨ e = .unsupported

/-- field names: whatever the cell contains, the outcome is a name or an interface error -/
theorem C10_field_name_total (s : Str) (e : PyExn) (h : validatedFieldName s = .error e) : e = .iface :=
  (validatedFieldName_ends s).error_mem h

/-- the integer-valued properties (Header, Sheet): a number, or a `Tolerated` error (one of
cutplace's own, or `unsupported` for a value outside the modelled fragment) -/
theorem C10_int_property_total (value : Str) (e : PyExn) (h : validatedIntAtLeast0 value = .error e) : Tolerated e := by
  rcases (validatedIntAtLeast0_ends value).error_mem h with rfl | rfl
  · exact .inl rfl
  · exact .inr rfl

/-- the row dispatch: an unknown row marker is an interface error, comment rows never fail -/
theorem C10_row_dispatch (cid : Cid) (row : List Str) (w : Bool) (enc : Str → Bool) :
    (rowKind row = .unknown → readRow cid row w enc = .error .iface) ∧
    (rowKind row = .comment → readRow cid row w enc = .ok cid) :=
  ⟨fun h => by simp [readRow, h], C09_comment_row_ignored cid row w enc⟩

/-- **A range description can only be refused as an interface error.** Whatever a CID cell hands to
`Range()` — a length, an Integer rule, "Allowed characters" — and whatever the default is, the
tokenizer (`tokenize.TokenError` is converted), the value conversions (`int`, `unicode_escape`,
symbolic names), the token loop and the overlap test either succeed or raise `InterfaceError`;
`StopIteration`, `AssertionError`, `UnicodeDecodeError` and the like are unreachable.  (`unsupported`
marks descriptions outside the modelled tokenizer fragment, which the correspondence never compares.) -/
theorem C10_range_total (description : Str) (default : Option Str) (e : PyExn)
    (h : Range.parse description default = .error e) : e = .iface ∨ e = .unsupported :=
  (Range.parse_ends description default).error_mem h

/-- **A decimal range description can only be refused as an interface error**: the `Decimal()` conversions
of its NUMBER tokens never yield a NaN or an infinity, so no comparison of limits raises
`decimal.InvalidOperation`, the token list always ends in the end marker (no `StopIteration`), and the
`assert` on precision and scale holds. -/
theorem C10_decimal_range_total (description : Str) (default : Option Str) (e : PyExn)
    (h : DecimalRange.parse description default = .error e) : e = .iface ∨ e = .unsupported :=
  (DecimalRange.parse_ends description default).error_mem h

/-- **Declaring a field of any type, with any length and rule cell, fails only as an interface error** -
or with the `OverflowError` of an absurdly long Integer length, which is the recorded finding, or with
the model's `unsupported` marker (a length or rule outside the modelled fragment, such as a
non-ASCII DateTime or Pattern rule). -/
theorem C10_field_declaration_total (ty : TypeName) (info : FormatInfo) (allowEmpty : Bool) (lengthText rule : Str) (e : PyExn)
    (h : declareFieldIn ty info allowEmpty lengthText rule = .error e) : e = .iface ∨ e = .unsupported ∨ e = .overflow :=
  (declareFieldIn_ends ty info allowEmpty lengthText rule).error_mem h

/-- **The whole of `Cid.read`**: whatever the rows of an interface definition contain - any number of
rows, any cells, in any order - reading them ends in a CID, in an `InterfaceError`, in the recorded
`OverflowError`, or outside the modelled fragment.  No `StopIteration`, `AssertionError`,
`ValueError` (`chr()` of a negative code), `InvalidOperation`, `re.error`, `UnicodeDecodeError`,
`TokenError`, `KeyError`... can come out, from any row kind. -/
theorem C10_cid_read_total (rows : List (List Str)) (w : Bool) (enc : Str → Bool) (e : CidErr)
    (h : Cid.read rows w enc = .error e) : e.exn = .iface ∨ e.exn = .unsupported ∨ e.exn = .overflow :=
  (Cid.read_ends rows w enc).error_mem h

/-- **No data value can make a field of a CID that was read fail internally**: for every CID `Cid.read`
accepts, every field of it and every cell text, validation returns a value, a rejection (`none`, the
`FieldValueError` that becomes a `DataError`), or the model's `unsupported` marker (the cell is outside
the modelled fragment, as every non-ASCII cell of an Integer, DateTime, Pattern or RegEx field is);
`InvalidOperation` (a NaN compared with a limit) and `re.error` (a format directive used twice) are
excluded by what the declaration guarantees. -/
theorem C10_field_value_total (rows : List (List Str)) (w : Bool) (enc : Str → Bool) (cid : Cid)
    (h : Cid.read rows w enc = .ok cid) (f : CidField) (hf : f ∈ cid.fields) (v : Str) (e : PyExn)
    (he : f.field.validated v = .error e) : e = .unsupported :=
  (f.field.validated_ends ((Cid.read_ends rows w enc).result h f hf) v).error_mem he

/-- a field row before the data format, and a data-format row that does not start with Format, are
interface errors (not assertion failures) -/
theorem C10_order_errors (cid : Cid) (cells : List Str) (w : Bool) (enc : Str → Bool) (h : cid.dataFormat = none) :
    addFieldRow cid cells w = .error .iface ∧
    (∀ name value rest, cells = name :: value :: rest → name ≠ [] → isAscii name = true → lower name ≠ "format".toList →
      addDataFormatRow cid cells enc = .error .iface) := by
  refine ⟨C09_field_needs_format cid cells w h, ?_⟩
  rintro name value rest rfl hne ha hl
  have hne' : name.isEmpty = false := by cases name <;> simp_all
  have hl2 : lower name ≠ ['f', 'o', 'r', 'm', 'a', 't'] := hl
  simp [addDataFormatRow, buildDataFormat, h, Except.map, hne', ha, hl2]

/-- the command line never answers any combination of CID / file outcomes with exit code 4 -/
theorem C10_cli_never_4 (usage : Bool) (cid : CidLoad) (files : List FileVerdict) : cliMain usage cid files ≠ 4 :=
  C18_never_four usage cid files

/-- non-vacuity: a CID that is read, and one that is refused because of a hostile decimal rule -/
example : (match Cid.read [["d".toList, "format".toList, "delimited".toList],
    ["f".toList, "amount".toList, [], [], [], "Decimal".toList, "0.5...9.75".toList]] with
    | .ok cid => cid.fields.length == 1 | _ => false) = true := by decide +kernel
example : (match Cid.read [["d".toList, "format".toList, "delimited".toList],
    ["f".toList, "amount".toList, [], [], [], "Decimal".toList, "9...1".toList]] with
    | .error ⟨.iface, some 1⟩ => true | _ => false) = true := by decide +kernel

/-- non-vacuity: a hostile field name -/
example : validatedFieldName "cl ass".toList = .error .iface := by rfl

end Cutplace.Props
