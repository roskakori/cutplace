import Cutplace.Proofs.ExcelDate
/-
C16  Excel cells render as documented text and the requested sheet is read.
-/
namespace Cutplace.Props
open Cutplace

/-- whole numbers are rendered without a fractional suffix: exactly the decimal text of the integer -/
theorem C16_whole (z : Int) : excelCellText (.whole z) = some (intRepr z) := rfl

/-- booleans are rendered as 1 / 0 -/
theorem C16_bool (b : Bool) : excelCellText (.bool b) = some (if b then ['1'] else ['0']) := rfl

/-- strings come back verbatim, empty cells as empty strings -/
theorem C16_text (s : Str) : excelCellText (.text s) = some s ∧ excelCellText .empty = some [] := ⟨rfl, rfl⟩

/-- a pure time (day number 0) is rendered as the time text of its seconds alone (hh:mm:ss for seconds below one day) -/
theorem C16_time (seconds : Nat) : excelCellText (.date 0 seconds) = some (timeText seconds) := rfl

/-- the time part has eight characters (the length of dd:dd:dd) for a whole number of seconds below one day -/
theorem C16_time_shape (seconds : Nat) (h : seconds < 86400) : (timeText seconds).length = 8 := by
  have hd : ∀ k, k < 10 → digits k = [k] := fun k hk => by unfold digits; simp [hk]
  have hp : ∀ n, n < 100 → (pad2 n).length = 2 := by
    intro n hn
    unfold pad2 natRepr
    split
    · rw [hd n ‹_›]; rfl
    · unfold digits
      rw [dif_neg ‹_›, hd (n / 10) (by omega)]; rfl
  unfold timeText
  have h1 : seconds / 3600 < 100 := by omega
  have h2 : seconds / 60 % 60 < 100 := by omega
  have h3 : seconds % 60 < 100 := by omega
  simp [hp _ h1, hp _ h2, hp _ h3]

/-- days of the proleptic Gregorian calendar up to the given civil date, counted from 1899-12-30
(the day Excel's serial 0 stands for in the 1900 system, valid from 1900-03-01) -/
def serialOfCivil (y m d : Nat) : Nat :=
  let y' := if m ≤ 2 then y - 1 else y
  let m' := if m ≤ 2 then m + 9 else m - 3
  let era := y' / 400
  let yoe := y' % 400
  let doy := (153 * m' + 2) / 5 + d - 1
  let doe := yoe * 365 + yoe / 4 - yoe / 100 + doy
  era * 146097 + doe - 693899

/-- concrete instances: serial 61 is 1900-03-01, and on five dates `xldateCivil` undoes `serialOfCivil`, the closed-form day count above -/
theorem C16_date_sample :
    xldateCivil (serialOfCivil 1900 3 1) = (1900, 3, 1) ∧ xldateCivil 61 = (1900, 3, 1) ∧
    xldateCivil (serialOfCivil 2000 2 29) = (2000, 2, 29) ∧ xldateCivil (serialOfCivil 2024 12 31) = (2024, 12, 31) ∧
    xldateCivil (serialOfCivil 2100 3 1) = (2100, 3, 1) ∧ xldateCivil (serialOfCivil 9999 12 31) = (9999, 12, 31) := by decide +kernel

/-- rendering of a date cell whose day number xlrd converts to `(y, m, d)` -/
theorem excelCellText_date (days seconds y m d : Nat) (h61 : 61 ≤ days) (hc : xldateCivil days = (y, m, d)) :
    excelCellText (.date days seconds)
      = some (pad4 y ++ ['-'] ++ pad2 m ++ ['-'] ++ pad2 d ++ [' '] ++ timeText seconds) := by
  have h0 : ¬ (days == 0) = true := by simp; omega
  rw [excelCellText, if_neg h0, if_neg (by omega), hc]

/-- dates: for every real calendar date from 1900-03-01 on and every number of seconds, the model renders the cell whose
serial number is that day as `YYYY-MM-DD hh:mm:ss` of exactly that date (that shape for years up to 9999 and seconds below
one day; neither bound is a hypothesis).  `excelSerial` is the naive calendar count (`Spec/Excel.lean`: days before the year
by the leap-year rule, days before the month by summing `daysInMonth`), `xldateCivil` is xlrd's Julian-day arithmetic. -/
theorem C16_date (y m d seconds : Nat) (hv : ValidCivil y m d) (h1900 : 1900 < y ∨ (y = 1900 ∧ 3 ≤ m)) :
    excelCellText (.date (excelSerial y m d) seconds)
      = some (pad4 y ++ ['-'] ++ pad2 m ++ ['-'] ++ pad2 d ++ [' '] ++ timeText seconds) := by
  obtain ⟨hciv, h61⟩ := xldateCivil_excelSerial y m d hv h1900
  exact excelCellText_date _ seconds y m d h61 hciv

/-- three evaluated serial numbers: the first admissible date 1900-03-01 is 61, 2024-02-29 is 45351, 9999-12-31 is 2958465 -/
theorem C16_serial_anchor : excelSerial 1900 3 1 = 61 ∧ excelSerial 2024 2 29 = 45351 ∧ excelSerial 9999 12 31 = 2958465 := by
  decide +kernel

/-- non-vacuity of `C16_date`: 29 February 2024 is a real date after 1900-03-01 -/
example : ValidCivil 2024 2 29 ∧ (1900 < 2024 ∨ (2024 = 1900 ∧ 3 ≤ 2)) := by
  unfold ValidCivil
  decide

/-- the sheet that is read is the one requested (1-based): the rows are its rows, each cell replaced by its text -/
theorem C16_sheet (sheets : List XSheet) (k : Nat) (rows : List (List Str)) (h : excelRows sheets k = some rows) :
    ∃ hk : k - 1 < sheets.length, 1 ≤ k ∧
      rows = (sheets[k - 1]'hk).map (fun row => row.map (fun c => (excelCellText c).getD [])) := by
  unfold excelRows at h
  by_cases hb : k < 1 ∨ k > sheets.length
  · rw [if_pos hb] at h; cases h
  · have hk : k - 1 < sheets.length := by omega
    rw [if_neg hb, List.getElem?_eq_getElem hk] at h
    simp only [] at h
    split at h
    · cases h
    · cases h
      refine ⟨hk, by omega, ?_⟩
      simp [Function.comp_def]

/-- each row read has as many cells as its row of the sheet: the reader never drops or adds a cell (padding is xlrd's, assumed of the input) -/
theorem C16_padding (sheets : List XSheet) (k : Nat) (rows : List (List Str)) (h : excelRows sheets k = some rows)
    (hk : k - 1 < sheets.length) : rows.map List.length = (sheets[k - 1]'hk).map List.length := by
  obtain ⟨_, _, hr⟩ := C16_sheet sheets k rows h
  rw [hr]; simp [Function.comp_def]

/-- in the model a sheet number below 1 or beyond the last sheet is a data-format error -/
theorem C16_missing_sheet (sheets : List XSheet) (k : Nat) (h : k < 1 ∨ k > sheets.length) : excelRows sheets k = none := by
  unfold excelRows
  rw [if_pos h]

/-- non-vacuity -/
example : excelRows [[[.text ['a']]], [[.whole 5, .bool true, .date 0 3723, .empty]]] 2 = some [["5".toList, "1".toList, "01:02:03".toList, []]] := by decide +kernel

end Cutplace.Props
