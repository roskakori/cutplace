import Cutplace.Proofs.FieldLemmas
/-
C03  Empty, length and allowed-character guards hold for every field type.

`Field.validatedWith` is the guard pipeline of `AbstractFieldFormat.validated` with the type's value
hook passed in as an argument, so every theorem below holds for every field type and rule —
built-in or plugin — and for every cell.
-/
namespace Cutplace.Props
open Cutplace Cutplace.Spec

/-- Whenever the statement of C03 fixes the verdict (`guardSpec`), the pipeline returns exactly that
verdict, with the type's empty value for an accepted empty cell, whatever the value hook would do:
the hook's behaviour does not appear on the right-hand side, i.e. the rule is not consulted. -/
theorem C03_guards (f : Field) (v : Str) (b : Bool) (h : guardSpec f v = some b)
    (hook : Str → Out (Option Value)) (ev : Value) :
    f.validatedWith hook ev v = .ok (if b then some ev else none) := by
  rw [Field.validatedWith_eq_pre, Field.pre_of_guardSpec h]
  cases b <;> rfl

/-- Empty cell (any format): accepted iff the field may be empty, yielding the empty value. -/
theorem C03_empty (f : Field) (hook : Str → Out (Option Value)) (ev : Value) :
    f.validatedWith hook ev [] = .ok (if f.allowEmpty then some ev else none) := by
  apply C03_guards
  have hec : emptyCell f [] = true := by unfold emptyCell; split <;> simp
  simp [guardSpec, hec]

/-- Fixed-width: a cell of blanks that fits the width, the blank being an allowed character, is accepted iff the
field may be empty. -/
theorem C03_blank_fixed (f : Field) (v : Str) (hf : f.fixed = true) (hb : v.all (· == ' ') = true)
    (hc : charsOk f v = true) (hl : lengthWithin f v = true)
    (hook : Str → Out (Option Value)) (ev : Value) :
    f.validatedWith hook ev v = .ok (if f.allowEmpty then some ev else none) := by
  apply C03_guards
  simp [guardSpec, emptyCell, hf, hb, hc, hl]

/-- A non-empty cell whose length lies outside the declaration is rejected whatever the hook says. -/
theorem C03_length (f : Field) (v : Str) (hne : emptyCell f v = false) (hl : lengthWithin f v = false)
    (hook : Str → Out (Option Value)) (ev : Value) :
    f.validatedWith hook ev v = .ok none := by
  have : guardSpec f v = some false := by
    unfold guardSpec
    cases charsOk f v <;> simp [hne, hl]
  simpa using C03_guards f v false this hook ev

/-- A non-empty cell containing a character outside the allowed range is rejected whatever the hook says. -/
theorem C03_chars (f : Field) (v : Str) (hne : emptyCell f v = false) (hc : charsOk f v = false)
    (hook : Str → Out (Option Value)) (ev : Value) :
    f.validatedWith hook ev v = .ok none := by
  have : guardSpec f v = some false := by simp [guardSpec, hne, hc]
  simpa using C03_guards f v false this hook ev

/-- The value hook is only ever consulted on a cell that passed all guards: non-empty after the
fixed-format blank stripping, only allowed characters, length inside the declaration.  Otherwise the
outcome does not depend on the hook at all. (Shared with C20.) -/
theorem C03_hook_precondition (f : Field) (v : Str) (hook : Str → Out (Option Value)) (ev : Value) :
    (f.validatedWith hook ev v = hook (if f.fixed then strip v else v) ∧ (if f.fixed then strip v else v) ≠ [] ∧
      charsOk f v = true ∧ f.lengthOk v = true)
    ∨ (∀ hook' : Str → Out (Option Value), f.validatedWith hook' ev v = f.validatedWith hook ev v) := by
  cases hp : f.pre v with
  | inl b => right; intro hook'; rw [Field.validatedWith_eq_pre, Field.validatedWith_eq_pre, hp]; cases b <;> rfl
  | inr s =>
    obtain ⟨h1, h2, h3, rfl⟩ := Field.pre_inr_iff.mp hp
    exact .inl ⟨by rw [Field.validatedWith_eq_pre, hp], h1, h2, h3⟩

/-- non-vacuity: a fixed field of width 3 that must not be empty, cell of three blanks -/
example : guardSpec ⟨false, rangeOfItems [⟨some 3, some 3⟩], true, none, .text⟩ [' ', ' ', ' '] = some false := by
  decide

end Cutplace.Props
