import Cutplace.Props.C06
/-
C04  A row is accepted iff all cells and row checks pass; errors name the culprit.
-/
namespace Cutplace.Props
open Cutplace

variable {σ : Type}

/-- A row is accepted iff it has exactly as many items as there are fields, every item is accepted
by the field in the same position, and no row check vetoes it (for every column list — i.e. every
field type — every check list and every check state). -/
theorem C04_row_iff (cols : List Column) (checks : List (Check σ)) (sts : List σ) (row : Row) (line : Nat) :
    (validateRow cols checks sts row line).2.1 = none ↔
      row.length = cols.length ∧ (∀ p ∈ cols.zip row, p.1.accepts p.2 = true) ∧
        (runChecks checks sts row line 0).2.1 = none := by
  rw [← findIdx?_rejects_eq_none]
  obtain ⟨hlen, hv⟩ | ⟨hlen, j, hf, hv⟩ | ⟨hlen, hf, hv⟩ := validateRow_cases cols checks sts row line
  · simp [hv, hlen]
  · simp [hv, hf]
  · simp [hv, hlen, hf]

/-- A wrong number of items is reported as a plain data error for that row; no field and no check is consulted. -/
theorem C04_count_error (cols : List Column) (checks : List (Check σ)) (sts : List σ) (row : Row) (line : Nat)
    (h : row.length ≠ cols.length) :
    validateRow cols checks sts row line = (sts, some .count, []) := by
  simp [validateRow, h]

/-- A field rejection names the *first* offending column: every earlier cell is accepted by its
field, the named one is not. -/
theorem C04_culprit (cols : List Column) (checks : List (Check σ)) (sts : List σ) (row : Row) (line j : Nat)
    (h : (validateRow cols checks sts row line).2.1 = some (.field j)) :
    row.length = cols.length ∧ ∃ hj : j < (cols.zip row).length,
      ((cols.zip row)[j].1.accepts (cols.zip row)[j].2 = false) ∧
      ∀ i (hi : i < j), ((cols.zip row)[i]'(by omega)).1.accepts ((cols.zip row)[i]'(by omega)).2 = true := by
  obtain ⟨-, hv⟩ | ⟨hlen, j', hf, hv⟩ | ⟨-, -, hv⟩ := validateRow_cases cols checks sts row line
  · simp [hv] at h
  · obtain rfl : j' = j := by simpa [hv] using h
    exact ⟨hlen, by simpa [rejects, List.findIdx?_eq_some_iff_getElem] using hf⟩
  · simp [hv] at h

/-- A check rejection is reported only when every cell was accepted. -/
theorem C04_check_error_after_fields (cols : List Column) (checks : List (Check σ)) (sts : List σ) (row : Row)
    (line idx : Nat) (see : Option Nat)
    (h : (validateRow cols checks sts row line).2.1 = some (.check idx see)) :
    row.length = cols.length ∧ (∀ p ∈ cols.zip row, p.1.accepts p.2 = true) := by
  obtain ⟨-, hv⟩ | ⟨-, j, -, hv⟩ | ⟨hlen, hf, -⟩ := validateRow_cases cols checks sts row line
  · simp [hv] at h
  · simp [hv] at h
  · exact ⟨hlen, findIdx?_rejects_eq_none.mp hf⟩

/-- Every error yielded for a data set carries the 0-based line of its raw row (header rows are
counted): this is the statement of `C06_yield_order` itself, cited here for what it says of the error events. -/
theorem C04_reader_line (header : Nat) (limit : Option Nat) (cols : List Column) (checks : List (Check σ))
    (fault : Bool) (n : Nat) (rows : List Row) (st : RState σ) :
    EventsMatch header n rows (readLoop ⟨.yield, header, limit⟩ cols checks fault n rows st).events :=
  C06_yield_order header limit cols checks fault n rows st

/-- non-vacuity -/
example :
    let good : Column := ⟨fun v => .inr v, fun v => v != ['x']⟩
    (validateRow (σ := Unit) [good, good, good] [] [] [['a'], ['x'], ['x']] 5).2.1 = some (.field 1) := by decide

end Cutplace.Props
