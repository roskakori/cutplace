import Cutplace.Proofs.FieldLemmas
import Cutplace.Proofs.EngineLemmas
/-
C20  User-defined field formats and checks are driven by the documented call protocol.
The engine model records every call it makes into a column's value hook or into a check; the
theorems describe that log for every table, configuration and plugin behaviour.
-/
namespace Cutplace.Props
open Cutplace Cutplace.Spec

variable {σ : Type}

/-- Calls made for one validated row: nothing for a wrong item count; otherwise value hooks in
column order up to and including the first rejected cell (only for cells whose guards pass), and —
only if every cell was accepted — `check_row` for the first `k` checks in declaration order, for
some `k` not above the number of checks (the statement does not tie `k` to a veto). -/
theorem C20_row_log (cols : List Column) (checks : List (Check σ)) (sts : List σ) (row : Row) (line : Nat) :
    (row.length ≠ cols.length → (validateRow cols checks sts row line).2.2 = []) ∧
    (row.length = cols.length →
      ∃ k, (validateRow cols checks sts row line).2.2 =
          hookCallsFrom 0 (cols.zip row) ++
            (if (cols.zip row).findIdx? rejects = none then (List.range' 0 k).map (fun j => Call.checkRow j row line) else [])
        ∧ k ≤ checks.length) := by
  obtain ⟨hlen, hv⟩ | ⟨hlen, j, hf, hv⟩ | ⟨hlen, hf, hv⟩ := validateRow_cases cols checks sts row line
  · exact ⟨fun _ => by rw [hv], fun h => absurd h hlen⟩
  · exact ⟨fun h => absurd hlen h, fun _ => ⟨0, by simp [hv, hf], Nat.zero_le _⟩⟩
  · obtain ⟨k, hk, hle, -⟩ := runChecks_log checks sts row line 0
    exact ⟨fun h => absurd hlen h, fun _ => ⟨k, by simp [hv, hf, hk], by omega⟩⟩

/-- `hookCallsFrom`, the hook part of the log in `C20_row_log`, stops at a rejected cell: when the cell at the
head is rejected, the calls are those of that cell alone (its hook call, if its guards pass), whatever cells follow. -/
theorem C20_hooks_stop_at_culprit (i : Nat) (p : Column × Str) (ps : List (Column × Str))
    (h : rejects p = true) : hookCallsFrom i (p :: ps) = hookCall i p.1 p.2 := by
  simp [hookCallsFrom, h]

/-- The argument of every value-hook call of a built-in-guarded field satisfies the documented
preconditions (non-empty, allowed characters only, length inside the declaration, blanks stripped in
fixed format). -/
theorem C20_hook_precondition (f : Field) (v s : Str) (h : f.pre v = .inr s) :
    s ≠ [] ∧ charsOk f v = true ∧ f.lengthOk v = true ∧ s = (if f.fixed then strip v else v) :=
  Field.pre_inr_iff.mp h

/-- Every check is reset exactly once, in declaration order, before anything else happens, and
never again during the run. -/
theorem C20_resets_first (cfg : ReaderCfg) (cols : List Column) (checks : List (Check σ)) (fault : Bool)
    (rows : List Row) (before : List σ) :
    ∃ rest, (readRows cfg cols checks fault rows before).log = resetCalls checks.length ++ rest ∧
      ∀ c ∈ rest, c.isReset = false :=
  ⟨_, rfl, readLoop_log_forall cfg cols checks fault (validateRow_log_isReset cols checks) 0 rows _⟩

/-- Rows beyond an existing validation limit cause no calls at all, header rows among them included (`hh` is not used):
an instance of `readLoop_log_outside`, which says the same of every run whose rows are all in the header or beyond the limit. -/
theorem C20_no_calls_outside_window (cfg : ReaderCfg) (cols : List Column) (checks : List (Check σ)) (fault : Bool)
    (l n : Nat) (rows : List Row) (st : RState σ) (hl : cfg.limit = some l) (hn : l ≤ n) (hh : cfg.header ≤ n) :
    (readLoop cfg cols checks fault n rows st).log = [] :=
  readLoop_log_outside cfg cols checks fault n rows st fun i _ _ => .inr (by simp [inLimit, hl]; omega)

/-- Closing asks the first `k` checks for their end-of-data verdict once each, in declaration order, `k` ending at the check it
reports as failing (all checks that have a state if it reports none); after that every check is cleaned up exactly once, in declaration order. -/
theorem C20_close_protocol (checks : List (Check σ)) (sts : List σ) :
    ∃ k, (closeValidator checks sts).2 =
        (List.range' 0 k).map Call.atEnd ++ (List.range checks.length).map Call.cleanup ∧
      k ≤ checks.length ∧
      (match (closeValidator checks sts).1 with
       | some j => j + 1 = k
       | none => k = min checks.length sts.length) := by
  obtain ⟨k, hk, hle, hres⟩ := atEndLoop_log checks sts 0
  refine ⟨k, by simp [closeValidator, hk], by omega, ?_⟩
  rw [closeValidator]
  cases hr : (atEndLoop checks sts 0).1 <;> simpa [hr] using hres

/-- class-name resolution: the last dotted component of the declared type plus the suffix -/
def lastDotted (s : Str) : Str :=
  (s.reverse.takeWhile (· != '.')).reverse

def resolveClass (registered : List Str) (qualifier suffix : Str) : Option Str :=
  let n := lastDotted qualifier ++ suffix
  if registered.contains n then some n else none

theorem C20_resolution (registered : List Str) (qualifier suffix n : Str) :
    resolveClass registered qualifier suffix = some n ↔ n = lastDotted qualifier ++ suffix ∧ n ∈ registered := by
  simp only [resolveClass, List.contains_iff_mem, Option.ite_none_right_eq_some, Option.some.injEq]
  exact ⟨fun ⟨h, e⟩ => ⟨e.symm, e ▸ h⟩, fun ⟨e, h⟩ => ⟨e ▸ h, e.symm⟩⟩

/-- non-vacuity: three columns, the second cell rejected: hooks for columns 0 and 1 only, no check called -/
example :
    let col : Column := ⟨fun v => .inr v, fun v => v != ['x']⟩
    let chk : Check Unit := ⟨(), fun s _ _ => (s, none), fun _ => true⟩
    (validateRow [col, col, col] [chk] [()] [['a'], ['x'], ['b']] 4).2.2
      = [.hook 0 ['a'], .hook 1 ['x']] := by decide

end Cutplace.Props
