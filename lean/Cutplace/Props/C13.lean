import Cutplace.Proofs.FixedLemmas
/-
C13  Fixed-width reading is lossless and aligned.
`fixedRows` is the transcription of `rowio.fixed_rows` (including the one-character push-back);
`Parses ws ld s rows` is the language of well-formed inputs: `s` is the concatenation of `rows`, every
item with its declared width, interleaved with line delimiters permitted by the setting (longest
match under `any`), the final one optional.  All theorems hold for every input string, every
non-empty list of positive widths and each of the five settings.
-/
namespace Cutplace.Props
open Cutplace Cutplace.Spec

/-- **Sound.** Whatever the reader returns is a lossless, aligned reading of the input. -/
theorem C13_sound (ws : List Nat) (ld : LineDelim) (s : Str) (rows : List (List Str))
    (hne : ws ≠ []) (hpos : ∀ w ∈ ws, 1 ≤ w) (h : fixedRows ws ld s = some rows) :
    Parses ws ld s rows := by
  rw [fixedRows_eq_spec ws ld s hne hpos] at h
  exact fixedParse_sound ws ld _ s rows h

/-- **Complete.** Every well-formed input is accepted, and read as the table it denotes. -/
theorem C13_complete (ws : List Nat) (ld : LineDelim) (s : Str) (rows : List (List Str))
    (hne : ws ≠ []) (hpos : ∀ w ∈ ws, 1 ≤ w) (h : Parses ws ld s rows) :
    fixedRows ws ld s = some rows := by
  rw [fixedRows_eq_spec ws ld s hne hpos]
  exact fixedParse_complete ws ld hne hpos s rows h _ (by omega)

/-- **No silent repair.** The reader fails (with a data-format error, `none`) exactly on the inputs
outside the language: short records and wrong or missing delimiters are never repaired. -/
theorem C13_no_repair (ws : List Nat) (ld : LineDelim) (s : Str) (hne : ws ≠ []) (hpos : ∀ w ∈ ws, 1 ≤ w) :
    fixedRows ws ld s = none ↔ ¬ ∃ rows, Parses ws ld s rows := by
  constructor
  · rintro h ⟨rows, hp⟩
    rw [C13_complete ws ld s rows hne hpos hp] at h
    cases h
  · intro h
    cases hr : fixedRows ws ld s with
    | none => rfl
    | some rows => exact absurd ⟨rows, C13_sound ws ld s rows hne hpos hr⟩ h

/-- What `Parses` gives: every item has exactly its declared width. -/
theorem C13_aligned (ws : List Nat) (ld : LineDelim) (s : Str) (rows : List (List Str))
    (h : Parses ws ld s rows) : ∀ row ∈ rows, row.map List.length = ws := by
  induction h with
  | nil => exact fun _ h => nomatch h
  | last row hr => exact List.forall_mem_singleton.2 hr
  | cons row d rest rows' hr hd hp ih => exact List.forall_mem_cons.2 ⟨hr, ih⟩

/-- The reading is unambiguous: an input denotes at most one table. -/
theorem C13_unique (ws : List Nat) (ld : LineDelim) (s : Str) (rows rows' : List (List Str))
    (hne : ws ≠ []) (hpos : ∀ w ∈ ws, 1 ≤ w) (h : Parses ws ld s rows) (h' : Parses ws ld s rows') :
    rows = rows' :=
  Option.some.inj ((C13_complete ws ld s rows hne hpos h).symm.trans (C13_complete ws ld s rows' hne hpos h'))

/-- non-vacuity: `ab` CR LF `cd` CR `ef` under `any` with widths 1,1 -/
example : fixedRows [1, 1] .any "ab\r\ncd\ref".toList = some [[['a'], ['b']], [['c'], ['d']], [['e'], ['f']]] := by
  decide
example : Parses [1, 1] .any "ab\ncd".toList [[['a'], ['b']], [['c'], ['d']]] :=
  .cons [['a'], ['b']] ['\n'] ['c', 'd'] [[['c'], ['d']]] rfl (Or.inl rfl) (.last [['c'], ['d']] rfl)

end Cutplace.Props
