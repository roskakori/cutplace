import Cutplace.Proofs.CheckLemmas
import Cutplace.Proofs.EngineLemmas
/-
C05  Uniqueness and distinct-count checks are decided over the whole data set.

The two main theorems are about a check's own `row` function applied to a list of rows one after the other,
each call on the state the call before left (`seqVerdicts`); they do not say which rows of a data set the
engine hands to a check.
-/
namespace Cutplace.Props
open Cutplace

/-- **IsUnique, iff and see-also.** For every sequence `pre` of rows (with their lines) handed to the check
one after the other, starting from its reset state, and every further row `x`: `x` is rejected iff some earlier row that the check let pass has
the same values in all key fields, and the error refers back to the line of the *first* such row —
`lookupKey` returns the line of the first entry with an equal key. Rows the check itself rejected
never register a key. -/
theorem C05_unique_verdict (K : List Nat) (pre : List (Row × Nat)) (row : Row) (line : Nat) :
    let vs := (seqVerdicts (isUniqueCheck K) (isUniqueCheck K).reset (pre ++ [(row, line)])).1
    let vpre := (seqVerdicts (isUniqueCheck K) (isUniqueCheck K).reset pre).1
    vs = vpre ++ [(lookupKey (keyOf K row) (passedKeys K pre vpre)).map (fun l => ⟨some l⟩)] := by
  have hs := unique_state K [] pre
  rw [List.nil_append] at hs
  simp only [seqVerdicts_append, show (isUniqueCheck K).reset = .unique [] from rfl, hs, seqVerdicts_cons, unique_row]
  cases lookupKey (keyOf K row) (passedKeys K pre (seqVerdicts (isUniqueCheck K) (.unique []) pre).1) <;> rfl

/-- what `lookupKey` means: the line of the first entry with that key -/
theorem C05_lookupKey_spec (k : List Str) (l : List (List Str × Nat)) :
    (lookupKey k l = none ↔ ∀ e ∈ l, e.1 ≠ k) ∧
    (∀ line, lookupKey k l = some line ↔
      ∃ a b, l = a ++ (k, line) :: b ∧ ∀ e ∈ a, e.1 ≠ k) := by
  rw [lookupKey_eq_find?]
  refine ⟨by simp, fun line => ?_⟩
  simp only [Option.map_eq_some_iff, List.find?_eq_some_iff_append]
  constructor
  · rintro ⟨⟨k', line'⟩, ⟨hk, a, b, hl, ha⟩, rfl⟩
    obtain rfl : k' = k := by simpa using hk
    exact ⟨a, b, hl, by simpa using ha⟩
  · rintro ⟨a, b, hl, ha⟩
    exact ⟨(k, line), ⟨by simp, a, b, hl, by simpa using ha⟩, rfl⟩

/-- A vetoing `IsUniqueCheck` leaves its state unchanged: a rejected row never registers a key. -/
theorem C05_rejected_row_not_registered (K : List Nat) (seen : List (List Str × Nat)) (row : Row) (line : Nat)
    (v : Veto) (h : ((isUniqueCheck K).row (.unique seen) row line).2 = some v) :
    ((isUniqueCheck K).row (.unique seen) row line).1 = .unique seen := by
  rw [unique_row] at h ⊢
  cases hl : lookupKey (keyOf K row) seen with
  | some first => rfl
  | none => simp [hl] at h

/-- **DistinctCount.** After any sequence of rows handed to the check one after the other, starting from its
reset state, its state lists each value
of the counted field exactly once, so the end-of-data verdict compares the number of distinct values
among those rows with the threshold — for each of the six operators and every threshold. -/
theorem C05_distinct (col : Nat) (cmp : Cmp) (n : Int) (rs : List (Row × Nat)) :
    ∃ vals, (seqVerdicts (distinctCountCheck col cmp n) (distinctCountCheck col cmp n).reset rs).2 = .distinct vals ∧
      vals.Nodup ∧ (∀ v, v ∈ vals ↔ v ∈ rs.map (fun r => r.1.getD col [])) ∧
      (distinctCountCheck col cmp n).atEnd (.distinct vals) = cmp.eval vals.length n ∧
      (seqVerdicts (distinctCountCheck col cmp n) (distinctCountCheck col cmp n).reset rs).1 = rs.map (fun _ => none) := by
  obtain ⟨vals, h1, h2, h3⟩ := distinct_state col cmp n rs [] List.nodup_nil
  have hreset : (distinctCountCheck col cmp n).reset = .distinct [] := rfl
  exact ⟨vals, by rw [hreset, h1], h2, by simpa using h3, rfl, by rw [hreset, h1]⟩

/-- A row rejected by a field never reaches any check: check states are untouched (see also
`C04_check_error_after_fields`). -/
theorem C05_field_rejected_rows_invisible {σ} (cols : List Column) (checks : List (Check σ)) (sts : List σ)
    (row : Row) (line j : Nat) (h : (validateRow cols checks sts row line).2.1 = some (.field j)) :
    (validateRow cols checks sts row line).1 = sts := by
  obtain ⟨-, hv⟩ | ⟨-, j', -, hv⟩ | ⟨-, -, hv⟩ := validateRow_cases cols checks sts row line
  · rw [hv]
  · rw [hv]
  · simp [hv] at h

/-- The general statement ("an earlier *accepted* row") fails when a later-declared check can reject
a row after IsUnique registered its key (known finding): row 0 passes IsUnique, is vetoed by the
second check, and row 1 is then reported as a duplicate of it. -/
theorem C05_unique_accepted_counterexample :
    let col : Column := ⟨fun v => .inr v, fun _ => true⟩
    let checks := [isUniqueCheck [0], scriptedCheck 0 ['1'] false]
    let r := readRows ⟨.yield, 0, none⟩ [col] checks false [[['1']], [['1']]] []
    r.events = [.err 0 (.check 1 none), .err 1 (.check 0 (some 0))] := by decide

/-- non-vacuity for `C05_unique_verdict`: keys a, b, a -/
example :
    (seqVerdicts (isUniqueCheck [0]) (isUniqueCheck [0]).reset [([['a']], 0), ([['b']], 1), ([['a']], 2)]).1
      = [none, none, some ⟨some 0⟩] := by decide

end Cutplace.Props
