import Cutplace.Proofs.EngineLemmas
/-
C14  A validating writer emits only conforming rows; its output validates again.
-/
namespace Cutplace.Props
open Cutplace

variable {σ : Type}

/-- the rows handed to the delegated writer: those whose verdict is "written", padded -/
def emitted (pad : Row → Row) : List Row → List (Option RowErr) → List Row
  | r :: rs, none :: es => pad r :: emitted pad rs es
  | _ :: rs, some _ :: es => emitted pad rs es
  | _, _ => []

/-- A rejected `write_row` emits nothing and leaves the line counter unchanged (so the writer can go
on); an accepted one emits exactly the padded row and advances the line by one. -/
theorem C14_write_row (header : Nat) (pad : Row → Row) (cols : List Column) (checks : List (Check σ))
    (w : WState σ) (row : Row) :
    let r := writeRow header pad cols checks w row
    (∀ e, r.2.1 = some e → r.1.out = w.out ∧ r.1.line = w.line) ∧
    (r.2.1 = none → r.1.out = w.out ++ [pad row] ∧ r.1.line = w.line + 1) := by
  unfold writeRow
  by_cases hh : w.line ≥ header
  · simp only [hh, if_true]
    generalize validateRow cols checks w.sts row w.line = vr
    obtain ⟨sts', err, log⟩ := vr
    cases err <;> simp
  · simp [hh]

/-- The output of any sequence of writes is exactly the accepted rows, padded, in order. -/
theorem C14_emits_accepted (header : Nat) (pad : Row → Row) (cols : List Column) (checks : List (Check σ))
    (w : WState σ) (rows : List Row) :
    let r := writeRows header pad cols checks w rows
    r.1.out = w.out ++ emitted pad rows r.2.1 ∧ r.2.1.length = rows.length := by
  induction rows generalizing w with
  | nil => simp [writeRows, emitted]
  | cons row rest ih =>
    have h1 := C14_write_row header pad cols checks w row
    have h2 := ih (writeRow header pad cols checks w row).1
    rw [writeRows_cons]
    dsimp only at h1 h2 ⊢
    cases he : (writeRow header pad cols checks w row).2.1 with
    | none => simp [emitted, h2, h1.2 he]
    | some e => simp [emitted, h2, h1.1 e he]

/-- The verdict of a write inside the validated window is the verdict of `validate_row` on that row in
the state reached: a row is written iff it conforms (C04's characterisation applies). -/
theorem C14_verdict_is_validation (header : Nat) (pad : Row → Row) (cols : List Column) (checks : List (Check σ))
    (w : WState σ) (row : Row) (h : w.line ≥ header) :
    (writeRow header pad cols checks w row).2.1 = (validateRow cols checks w.sts row w.line).2.1 := by
  unfold writeRow
  simp only [h]
  generalize validateRow cols checks w.sts row w.line = vr
  obtain ⟨sts', err, log⟩ := vr
  cases err <;> rfl

/-- fixed-width padding of a row: every item is the value followed by blanks up to the field width -/
def padCells (widths : List Nat) (row : Row) : Row :=
  (row.zip widths).map (fun (c, w) => c ++ List.replicate (w - c.length) ' ')

/-- a row with one item per field, each no longer than its field's width, is padded to items whose
lengths are exactly the field widths (lengths only; that the blanks follow the value is `padCells` itself) -/
theorem C14_padding (widths : List Nat) (row : Row) (h : row.length = widths.length)
    (hfit : ∀ p ∈ row.zip widths, p.1.length ≤ p.2) :
    (padCells widths row).map List.length = widths := by
  -- every padded cell has its width, and the widths paired with the cells are all the widths
  refine Eq.trans ?_ (List.map_snd_zip (l₁ := row) (Nat.le_of_eq h.symm))
  rw [padCells, List.map_map]
  exact List.map_congr_left fun p hp => by simp [Nat.add_sub_cancel' (hfit p hp)]

/-- non-vacuity: accepted, rejected (field), accepted -/
example :
    let col : Column := ⟨fun v => .inr v, fun v => v != ['x']⟩
    (writeRows (σ := Unit) 0 id [col] [] ⟨[], 0, []⟩ [[['a']], [['x']], [['b']]]).1.out = [[['a']], [['b']]] := by decide

/-- **Writing is incremental; a writer can go on after a rejection.** Writing the rows `a ++ b` is writing `a` and then writing `b`
with the writer as `a` left it - whatever was rejected in `a`: same final writer state (rows emitted, line, check states), the
verdicts of `a` followed by those of `b`, the calls of `a` followed by those of `b`. -/
theorem C14_incremental (header : Nat) (pad : Row → Row) (cols : List Column) (checks : List (Check σ)) (w : WState σ) (a b : List Row) :
    writeRows header pad cols checks w (a ++ b) =
      ((writeRows header pad cols checks (writeRows header pad cols checks w a).1 b).1,
       (writeRows header pad cols checks w a).2.1 ++ (writeRows header pad cols checks (writeRows header pad cols checks w a).1 b).2.1,
       (writeRows header pad cols checks w a).2.2 ++ (writeRows header pad cols checks (writeRows header pad cols checks w a).1 b).2.2) := by
  induction a generalizing w with
  | nil => simp [writeRows]
  | cons r rest ih => simp only [List.cons_append, writeRows_cons, ih, List.append_assoc]

end Cutplace.Props
