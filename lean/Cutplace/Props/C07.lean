import Cutplace.Proofs.EngineLemmas
/-
C07  Header rows are skipped; the validation limit bounds validation, not data.
-/
namespace Cutplace.Props
open Cutplace

variable {σ : Type}

/-- Rows inside the header window are consumed without any effect: no event, no call, no change of
state — whatever they contain. -/
theorem C07_header_skip (cfg : ReaderCfg) (cols : List Column) (checks : List (Check σ)) (fault : Bool)
    (n : Nat) (hdr data : List Row) (st : RState σ) (h : n + hdr.length ≤ cfg.header) :
    readLoop cfg cols checks fault n (hdr ++ data) st = readLoop cfg cols checks fault (n + hdr.length) data st := by
  induction hdr generalizing n with
  | nil => rfl
  | cons r rs ih =>
    rw [List.length_cons] at h
    rw [List.cons_append, readLoop_skip (by omega), ih (n + 1) (by omega), List.length_cons, Nat.succ_add_eq_add_succ]

/-- The header rows are neither validated nor returned, whatever they contain: replacing them by
any other rows of the same number changes nothing. -/
theorem C07_header_blind (cfg : ReaderCfg) (cols : List Column) (checks : List (Check σ)) (fault : Bool)
    (hdr hdr' data : List Row) (before : List σ) (h : hdr.length = cfg.header) (h' : hdr'.length = cfg.header) :
    readRows cfg cols checks fault (hdr ++ data) before = readRows cfg cols checks fault (hdr' ++ data) before := by
  unfold readRows
  rw [C07_header_skip cfg cols checks fault 0 hdr data _ (by omega),
      C07_header_skip cfg cols checks fault 0 hdr' data _ (by omega), h, h']

/-- Beyond the validation limit rows are returned unchanged and unvalidated: one `row` event each,
counted as accepted, no call into any field or check, check states untouched. -/
theorem C07_beyond_limit (cfg : ReaderCfg) (cols : List Column) (checks : List (Check σ)) (fault : Bool)
    (l n : Nat) (rows : List Row) (st : RState σ) (hl : cfg.limit = some l) (hn : l ≤ n) (hh : cfg.header ≤ n) :
    let r := readLoop cfg cols checks fault n rows st
    r.events = rows.map Event.row ∧ r.log = [] ∧ r.st.sts = st.sts ∧
      r.st.accepted = st.accepted + rows.length ∧ r.st.rejected = st.rejected ∧
      r.final = (if fault then .format (n + rows.length) else .exhausted) := by
  induction rows generalizing n st with
  | nil => simp [readLoop_nil]
  | cons row rest ih =>
    have h2 : inLimit cfg.limit (n + 1) = false := by simp [inLimit, hl]; omega
    simpa [readLoop_beyond (Nat.lt_succ_of_le hh) h2, Nat.succ_add_eq_add_succ] using
      ih (n + 1) { st with accepted := st.accepted + 1 } (by omega) (by omega)

/-- `N = 0` validates nothing: every data row is returned as it is and nothing is called. -/
theorem C07_zero (mode : Mode) (header : Nat) (cols : List Column) (checks : List (Check σ))
    (hdr data : List Row) (before : List σ) (h : hdr.length = header) :
    let r := readRows ⟨mode, header, some 0⟩ cols checks false (hdr ++ data) before
    r.events = data.map Event.row ∧ r.log = resetCalls checks.length ∧ r.final = .exhausted ∧ r.st.rejected = 0 := by
  unfold readRows
  rw [C07_header_skip ⟨mode, header, some 0⟩ cols checks false 0 hdr data _ (by simp; omega)]
  have := C07_beyond_limit ⟨mode, header, some 0⟩ cols checks false 0 (0 + hdr.length) data
    ⟨checks.map (·.reset), 0, 0⟩ rfl (by omega) (by simp; omega)
  simp only [Nat.zero_add] at this ⊢
  obtain ⟨e1, e2, _, _, e5, e6⟩ := this
  simp [e1, e2, e5, e6]

/-- An error is only ever reported for a row after the header and not beyond the limit. -/
theorem C07_errors_in_window (cfg : ReaderCfg) (cols : List Column) (checks : List (Check σ)) (fault : Bool)
    (n : Nat) (rows : List Row) (st : RState σ) (line : Nat) (e : RowErr)
    (h : Event.err line e ∈ (readLoop cfg cols checks fault n rows st).events ∨
         (readLoop cfg cols checks fault n rows st).final = .raised line e) :
    n ≤ line ∧ cfg.header < line + 1 ∧ inLimit cfg.limit (line + 1) = true := by
  -- whatever the rest of the loop reports lies behind row `n`
  have up {n : Nat} {W : Prop} : n + 1 ≤ line ∧ W → n ≤ line ∧ W := And.imp_left Nat.le_of_succ_le
  induction n, rows, st using readLoop_induction cfg.header cfg.limit cols checks with
  | nil => simp [readLoop_nil] at h; split at h <;> simp at h
  | skip hh ih => exact up (ih (by rwa [readLoop_skip hh] at h))
  | beyond hh hl ih => exact up (ih (by simpa [readLoop_beyond hh hl] using h))
  | accept hh hl hv ih => exact up (ih (by simpa [readLoop_accept hv hh hl] using h))
  | @reject n _ _ _ _ _ _ hh hl hv ih =>
    rw [readLoop_reject hv hh hl] at h
    have here : n ≤ n ∧ cfg.header < n + 1 ∧ inLimit cfg.limit (n + 1) = true := ⟨Nat.le_refl n, hh, hl⟩
    cases hm : cfg.mode with
    | raise => simp [hm] at h; exact h.1 ▸ here
    | yield =>
      simp [hm] at h
      rcases h with (⟨rfl, _⟩ | h) | h
      · exact here
      · exact up (ih (.inl h))
      · exact up (ih (.inr h))
    | «continue» => exact up (ih (by simpa [hm] using h))

/-- `CutplaceApp.set_options`: `--until -1` means no limit, `n ≥ 0` means limit `n`, anything below is
a usage error (`none`). -/
def untilOption (n : Int) : Option (Option Nat) :=
  if n = -1 then some none else if n ≥ 0 then some (some n.toNat) else none

theorem C07_cli_until (n : Int) :
    (n = -1 → untilOption n = some none) ∧ (0 ≤ n → untilOption n = some (some n.toNat)) ∧
      (n < -1 → untilOption n = none) := by
  unfold untilOption
  refine ⟨fun h => by simp [h], fun h => ?_, fun h => ?_⟩
  · have : n ≠ -1 := by omega
    simp [this, h]
  · have h1 : n ≠ -1 := by omega
    have h2 : ¬ n ≥ 0 := by omega
    simp [h1, h2]

/-- non-vacuity: header 1, limit 2: the bad third row is beyond the limit and comes back as it is -/
example :
    let col : Column := ⟨fun v => .inr v, fun v => v != ['x']⟩
    (readRows (σ := Unit) ⟨.yield, 1, some 2⟩ [col] [] false [[['x']], [['x']], [['x']]] []).events
      = [.err 1 (.field 0), .row [['x']]] := by decide

/-- **What has been read does not depend on what follows.** Whatever rows - and whatever container fault - come after the rows
`a`: the events a reader has delivered and the calls it has made when it is through with `a` are the beginning of the events and
calls of reading everything.  This is what lets the validate-only API stop after N data rows: nothing behind them is looked at. -/
theorem C07_prefix_blind (cfg : ReaderCfg) (cols : List Column) (checks : List (Check σ)) (fault : Bool) (a b : List Row) (before : List σ) :
    (readRows cfg cols checks false a before).events <+: (readRows cfg cols checks fault (a ++ b) before).events ∧
    (readRows cfg cols checks false a before).log <+: (readRows cfg cols checks fault (a ++ b) before).log := by
  unfold readRows
  have := readLoop_prefix cfg cols checks fault b a 0 ⟨checks.map (·.reset), 0, 0⟩
  exact ⟨this.1, (List.prefix_append_right_inj _).mpr this.2⟩

/-- a reader that is abandoned after `k` events has delivered the same `k` events whatever came after the rows it needed for them -/
theorem C07_stop_blind (cfg : ReaderCfg) (cols : List Column) (checks : List (Check σ)) (fault : Bool) (a b : List Row) (before : List σ)
    (k : Nat) (hk : k ≤ (readRows cfg cols checks false a before).events.length) :
    (readRows cfg cols checks fault (a ++ b) before).events.take k = (readRows cfg cols checks false a before).events.take k := by
  obtain ⟨t, ht⟩ := (C07_prefix_blind cfg cols checks fault a b before).1
  rw [← ht, List.take_append_of_le_length hk]

/-- non-vacuity of `C07_stop_blind`: two rows give two events, so a reader abandoned after two events has delivered the same
whatever follows - here a third row and a container fault -/
example :
    let col : Column := ⟨fun v => .inr v, fun v => v != ['x']⟩
    (readRows (σ := Unit) ⟨.yield, 0, none⟩ [col] [] true ([[['a']], [['x']]] ++ [[['b']]]) []).events.take 2
      = [.row [['a']], .err 1 (.field 0)] := by
  intro col
  rw [C07_stop_blind ⟨.yield, 0, none⟩ [col] [] true [[['a']], [['x']]] [[['b']]] [] 2 (by decide)]
  decide

end Cutplace.Props
