import Cutplace.Proofs.OdsLemmas
/-
C15  ODS sheets are read as the logical table they contain.

`odsRows` is the transcription of `rowio.ods_rows` over an ElementTree-shaped tree; `encodeDoc f d`
stores a document `d` (sheets of rows of cell texts) as ODF content using the optional features `f`.
Full statement (target): `odsRows (encodeDoc f d) k = rows of the k-th sheet` for every `f`.
Since the repair of the cell text extraction this holds - and is proved - for every document and every
combination of column runs, white-space elements (`text:s`, `text:tab`, `text:line-break`), `text:span` mark-up and
several paragraphs per cell (`C15_decode_encode`); row runs (`table:number-rows-repeated`) are still not expanded:
a proved counterexample (open known finding).
-/
namespace Cutplace.Props
open Cutplace Cutplace.Spec

/-- run-length compression of equal adjacent cells (or rows) loses nothing -/
theorem C15_runs_lossless {α} [DecidableEq α] (l : List α) : expandRuns (runs l) = l := expandRuns_runs l

/-- **For every document, every sheet number inside it and every encoding that does not use row runs** - column runs
(`table:number-columns-repeated`), blanks / tabs / line breaks stored as `text:s` / `text:tab` / `text:line-break`, text
wrapped in `text:span`, lines stored as separate `text:p`, in any combination - reading sheet `k` returns exactly the rows
and cell texts of the k-th sheet (empty cells as empty strings).  Assumed: the rows of that sheet are narrower and its cell
texts shorter than `10 ^ 4300` (`maxStrDigits`, the digit limit of the model's `int()` conversion, so every repeat count
the encoding writes is converted); this is a hypothesis of the theorem, not the size at which the code gives up. -/
theorem C15_decode_encode (f : OdsFeatures) (hf : f.rowRuns = false) (d : OdsDoc) (k : Nat) (hk1 : 1 ≤ k) (hk2 : k ≤ d.length)
    (hsmall : ∀ r ∈ d[k - 1]'(by omega), r.length < 10 ^ maxStrDigits)
    (hcells : ∀ r ∈ d[k - 1]'(by omega), ∀ t ∈ r, t.length < 10 ^ maxStrDigits) :
    odsRows (some (encodeDoc f d)) k = .rows ((d[k - 1]'(by omega)).map (·.map some)) :=
  (odsRows_encodeDoc f d k hk1 hk2 hsmall hcells).trans (by rw [hf]; rfl)

/-- Requesting a sheet the document does not have fails with a data-format error. -/
theorem C15_missing_sheet (f : OdsFeatures) (d : OdsDoc) (k : Nat) (h : d.length < k) :
    odsRows (some (encodeDoc f d)) k = .formatError :=
  odsRows_of_lt _ k (by simpa [odsTables_encodeDoc] using h)

/-- A container that cannot be opened or parsed reaches the model as the input `none` (the ways this happens - not a zip
archive, no content.xml, malformed XML - are not modelled); `odsRows` answers `none` with a data-format error. -/
theorem C15_container (k : Nat) : odsRows none k = .formatError := rfl

/-- Two evaluated rows: a cell with the repeat count `0` (not positive) and one with `x` (not a number) each make
`odsRow` answer with a data-format error. -/
theorem C15_bad_repeat :
    (odsRow (.node "table:table-row" [] none [.node "table:table-cell" [("table:number-columns-repeated", ['0'])] none [] none] none)
      = some none) ∧
    (odsRow (.node "table:table-row" [] none [.node "table:table-cell" [("table:number-columns-repeated", ['x'])] none [] none] none)
      = some none) := by decide +kernel

/-- The full statement still fails for row runs: -/
theorem C15_row_runs_counterexample :
    odsRows (some (encodeDoc { rowRuns := true } [[[['a']], [['a']]]])) 1 ≠ .rows [[some ['a']], [some ['a']]] := by decide +kernel

/-- the three mark-up features that used to lose text (findings C15:decode:whitespace-elements / spans / paragraphs, fixed):
the reader now returns the text -/
example : odsRows (some (encodeDoc { whitespace := true } [[["a  b\tc".toList]]])) 1 = .rows [[some "a  b\tc".toList]] := by decide +kernel
example : odsRows (some (encodeDoc { spans := true } [[[['a']]]])) 1 = .rows [[some ['a']]] := by decide +kernel
example : odsRows (some (encodeDoc { paragraphs := true, whitespace := true } [[["l1\nl  2".toList]]])) 1 = .rows [[some "l1\nl  2".toList]] := by
  decide +kernel

/-- **Rows inside row containers.** The rows of a sheet that are wrapped into `table:table-header-rows`, `table:table-row-group`
(also nested) and `table:table-rows` are found in document order (before 7fe378e they were skipped: only direct children of the
table were read).  `groupRows` is the wrapping the correspondence uses. -/
theorem C15_row_containers (f : OdsFeatures) (rows : List (List Str × Nat)) :
    tableRowsIn (groupRows (rows.map (fun p => encodeRow f p.1 p.2))) = rows.map (fun p => encodeRow f p.1 p.2) :=
  tableRowsIn_groupRows f rows

example : odsRows (some (regroupDoc (encodeDoc { colRuns := true } [[[['a']], [['b'], ['b']], [['c']], [['d']], [['e']]]]))) 1
    = .rows [[some ['a']], [some ['b'], some ['b']], [some ['c']], [some ['d']], [some ['e']]] := by decide +kernel

/-- **decode ∘ encode with the rows of every sheet in row containers**: as `C15_decode_encode`, for documents whose rows are
wrapped into header rows, (nested) outline groups and plain row groups -/
theorem C15_decode_encode_grouped (f : OdsFeatures) (hf : f.rowRuns = false) (d : OdsDoc) (k : Nat) (hk1 : 1 ≤ k) (hk2 : k ≤ d.length)
    (hsmall : ∀ r ∈ d[k - 1]'(by omega), r.length < 10 ^ maxStrDigits)
    (hcells : ∀ r ∈ d[k - 1]'(by omega), ∀ t ∈ r, t.length < 10 ^ maxStrDigits) :
    odsRows (some (regroupDoc (encodeDoc f d))) k = .rows ((d[k - 1]'(by omega)).map (·.map some)) :=
  (odsRows_regroupDoc _ k).trans (C15_decode_encode f hf d k hk1 hk2 hsmall hcells)

/-- **Covered cells.** For the inner loop of `odsRow` (`odsRow.cells`, run on the cell elements `odsRow` has selected by tag):
whatever list of cell elements it is given, storing every second one as a cell covered by a merge
(`table:covered-table-cell`) leaves its result unchanged - same number of cells, same texts, same repeat counts.  That
`odsRow` selects covered cells in the first place is not in this statement (see `C15_decode_encode_covered`). -/
theorem C15_covered_cells (cells : List Xml) : odsRow.cells (coverCells cells) = odsRow.cells cells :=
  cells_coverCells cells

/-- **decode ∘ encode with covered cells**: as `C15_decode_encode`, for documents in which every second cell of every row is
stored as a cell covered by a merge -/
theorem C15_decode_encode_covered (f : OdsFeatures) (hf : f.rowRuns = false) (d : OdsDoc) (k : Nat) (hk1 : 1 ≤ k) (hk2 : k ≤ d.length)
    (hsmall : ∀ r ∈ d[k - 1]'(by omega), r.length < 10 ^ maxStrDigits)
    (hcells : ∀ r ∈ d[k - 1]'(by omega), ∀ t ∈ r, t.length < 10 ^ maxStrDigits) :
    odsRows (some (coverDoc (encodeDoc f d))) k = .rows ((d[k - 1]'(by omega)).map (·.map some)) :=
  (odsRows_coverDoc _ (plainRows_encodeDoc f d) k).trans (C15_decode_encode f hf d k hk1 hk2 hsmall hcells)

/-- **decode ∘ encode with both**: covered cells in rows that sit in row containers -/
theorem C15_decode_encode_grouped_covered (f : OdsFeatures) (hf : f.rowRuns = false) (d : OdsDoc) (k : Nat) (hk1 : 1 ≤ k) (hk2 : k ≤ d.length)
    (hsmall : ∀ r ∈ d[k - 1]'(by omega), r.length < 10 ^ maxStrDigits)
    (hcells : ∀ r ∈ d[k - 1]'(by omega), ∀ t ∈ r, t.length < 10 ^ maxStrDigits) :
    odsRows (some (regroupDoc (coverDoc (encodeDoc f d)))) k = .rows ((d[k - 1]'(by omega)).map (·.map some)) :=
  (odsRows_regroupDoc _ k).trans (C15_decode_encode_covered f hf d k hk1 hk2 hsmall hcells)

/-- Requesting a sheet the document does not have fails with a data-format error, also when the rows of the document sit in row
containers, and also when they store covered cells (two separate cases, not both in one document). -/
theorem C15_missing_sheet_grouped_covered (f : OdsFeatures) (d : OdsDoc) (k : Nat) (h : d.length < k) :
    odsRows (some (regroupDoc (encodeDoc f d))) k = .formatError ∧ odsRows (some (coverDoc (encodeDoc f d))) k = .formatError :=
  ⟨(odsRows_regroupDoc _ k).trans (C15_missing_sheet f d k h),
    (odsRows_coverDoc _ (plainRows_encodeDoc f d) k).trans (C15_missing_sheet f d k h)⟩

/-- cells covered by a merge (`table:covered-table-cell`) take up their column (before the repair they were skipped and the cells
after them moved to the left) -/
example : odsRows (some (coverDoc (encodeDoc { colRuns := true } [[[['a'], [], ['c'], ['c']], [['x'], ['y']]]]))) 1
    = .rows [[some ['a'], some [], some ['c'], some ['c']], [some ['x'], some ['y']]] := by decide +kernel

/-- non-vacuity: column runs and spans on, two sheets: the hypotheses of the theorem are met -/
example : odsRows (some (encodeDoc { colRuns := true, spans := true } [[[['x']]], [[['a'], ['a'], ['a'], []], [['b']]]])) 2
    = .rows [[some ['a'], some ['a'], some ['a'], some []], [some ['b']]] :=
  C15_decode_encode { colRuns := true, spans := true } rfl _ 2 (by decide) (by decide) (by decide +kernel) (by decide +kernel)

end Cutplace.Props
