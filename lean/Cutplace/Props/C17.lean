import Cutplace.Model.Cid
import Cutplace.Proofs.FieldLemmas
/-
C17  The storage format of CID and data does not change the verdict.

(a) `Cid.read` is a function of the list of rows only: whatever container delivered the rows (CSV text,
ODS, Excel), equal rows give equal interface definitions; the containers' decode-encode theorems are
C12 (delimited), C15 (ODS) and C16 (Excel text cells).
(b) A field declaration consults the data format only through "is it fixed-width?", the decimal and
thousands separators (defaults for Excel/ODS) and, for DateTime, "is it Excel?" (the documented
" 00:00:00" suffix): `declareFieldIn_format`.  Hence for the three non-fixed formats the declared field — and with it every
verdict and returned value — is the same.
-/
namespace Cutplace.Props
open Cutplace

/-- (a) equal rows give equal interface definitions (plugin switch and known encodings the same on both sides) -/
theorem C17_cid_storage (rows rows' : List (List Str)) (w : Bool) (e : Str → Bool) (h : rows = rows') :
    Cid.read rows w e = Cid.read rows' w e := by subst h; rfl

def nonFixed (f : Format) : Prop := f = .delimited ∨ f = .excel ∨ f = .ods

/-- (b) for every field type except Decimal and DateTime the declared field is literally the same
under delimited, Excel and ODS formats (same guards, same rule semantics) -/
theorem C17_field_format_independent (ty : TypeName) (hty : ty ≠ .decimal ∧ ty ≠ .datetime)
    (f1 f2 : Format) (h1 : nonFixed f1) (h2 : nonFixed f2) (allowed : Option Range) (ds : Char) (ts : Option Char)
    (allowEmpty : Bool) (lengthText rule : Str) :
    declareFieldIn ty ⟨f1, allowed, ds, ts⟩ allowEmpty lengthText rule =
      declareFieldIn ty ⟨f2, allowed, ds, ts⟩ allowEmpty lengthText rule := by
  exact declareFieldIn_format ty f1 f2 _ _ _ _ _ _ (by rw [beq_fixed_eq_false h1, beq_fixed_eq_false h2]) (absurd · hty.1) (absurd · hty.2)

/-- Decimal: with the default separators (what a CID that differs only in its Format property has) the
declared field is the same under delimited, Excel and ODS -/
theorem C17_decimal_format_independent (f1 f2 : Format) (h1 : nonFixed f1) (h2 : nonFixed f2) (allowed : Option Range)
    (allowEmpty : Bool) (lengthText rule : Str) :
    declareFieldIn .decimal ⟨f1, allowed, '.', none⟩ allowEmpty lengthText rule =
      declareFieldIn .decimal ⟨f2, allowed, '.', none⟩ allowEmpty lengthText rule := by
  exact declareFieldIn_format _ f1 f2 _ _ _ _ _ _ (by rw [beq_fixed_eq_false h1, beq_fixed_eq_false h2]) (fun _ => .inr ⟨rfl, rfl⟩) nofun

/-- DateTime: two DateTime field kinds that differ only in the flag "Excel" give the same result of validating
a cell, unless the rule is date-only and the cell ends in " 00:00:00" (the documented normalisation) -/
theorem C17_datetime_value (fmt : List FmtTok) (hasTime : Bool) (v : Str)
    (h : hasTime = true ∨ ¬ (v.length ≥ 9 ∧ v.drop (v.length - 9) = " 00:00:00".toList)) :
    (FieldKind.datetime fmt hasTime true).validatedValue v = (FieldKind.datetime fmt hasTime false).validatedValue v := by
  -- the flag is read by `stripExcelTime` alone, and there only in a test that `h` makes false
  have hs : stripExcelTime hasTime true v = stripExcelTime hasTime false v := by
    unfold stripExcelTime
    rw [if_neg, if_neg (by simp)]
    cases hasTime
    · simpa using h
    · simp
  simp only [FieldKind.validatedValue, hs]

/-- non-vacuity: an Integer field declared under Excel and under ODS is one and the same field -/
example : declareFieldIn .integer ⟨.excel, none, '.', none⟩ false [] "1...9".toList =
    declareFieldIn .integer ⟨.ods, none, '.', none⟩ false [] "1...9".toList :=
  C17_field_format_independent .integer (by decide) _ _ (Or.inr (Or.inl rfl)) (Or.inr (Or.inr rfl)) _ _ _ _ _ _

end Cutplace.Props
