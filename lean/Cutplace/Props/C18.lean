import Cutplace.Proofs.CliLemmas
/-
C18  The command line's exit code reflects the validation outcome.
-/
namespace Cutplace.Props
open Cutplace

/-- exit code 0 iff the arguments are usable, the CID loads and every file is accepted -/
theorem C18_zero_iff (usage : Bool) (cid : CidLoad) (files : List FileVerdict) :
    cliMain usage cid files = 0 ↔ usage = false ∧ cid = .ok ∧ ∀ f ∈ files, f = .accepted := by
  rw [cliMain_eq, all_accepted_iff]
  cases usage <;> cases cid <;> simp
  by_cases hu : .unreadable ∈ files <;> by_cases hr : .rejected ∈ files <;> simp [hu, hr]

/-- exit code 1 iff the CID is rejected, or it loads, every named file can be read and at least one is rejected -/
theorem C18_one_iff (usage : Bool) (cid : CidLoad) (files : List FileVerdict) :
    cliMain usage cid files = 1 ↔
      usage = false ∧ (cid = .rejected ∨ (cid = .ok ∧ .unreadable ∉ files ∧ .rejected ∈ files)) := by
  rw [cliMain_eq]
  cases usage <;> cases cid <;> simp
  by_cases hu : .unreadable ∈ files <;> by_cases hr : .rejected ∈ files <;> simp [hu, hr]

/-- exit code 3 iff the CID cannot be read, or it loads and some named file cannot be read -/
theorem C18_three_iff (usage : Bool) (cid : CidLoad) (files : List FileVerdict) :
    cliMain usage cid files = 3 ↔ usage = false ∧ (cid = .unreadable ∨ (cid = .ok ∧ .unreadable ∈ files)) := by
  rw [cliMain_eq]
  cases usage <;> cases cid <;> simp
  by_cases hu : .unreadable ∈ files <;> by_cases hr : .rejected ∈ files <;> simp [hu, hr]

/-- exit code 2 iff the arguments are unusable -/
theorem C18_two_iff (usage : Bool) (cid : CidLoad) (files : List FileVerdict) :
    cliMain usage cid files = 2 ↔ usage = true := by
  rw [cliMain_eq]
  cases usage <;> cases cid <;> simp
  by_cases hu : .unreadable ∈ files <;> by_cases hr : .rejected ∈ files <;> simp [hu, hr]

theorem C18_never_four (usage : Bool) (cid : CidLoad) (files : List FileVerdict) :
    cliMain usage cid files ≠ 4 := by
  rw [cliMain_eq]
  cases usage <;> cases cid <;> simp
  by_cases hu : .unreadable ∈ files <;> by_cases hr : .rejected ∈ files <;> simp [hu, hr]

/-- the exit code does not depend on the order in which the verdicts of the data files are given -/
theorem C18_order_independent (usage : Bool) (cid : CidLoad) (files files' : List FileVerdict)
    (h : files.Perm files') : cliMain usage cid files = cliMain usage cid files' :=
  cliMain_congr_mem usage cid fun _ => h.mem_iff

/-- non-vacuity -/
example : cliMain false .ok [.accepted, .rejected, .accepted] = 1 ∧ cliMain false .ok [.rejected, .unreadable] = 3 ∧
    cliMain false .ok [] = 0 := by decide

end Cutplace.Props
