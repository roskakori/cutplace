import Cutplace.Proofs.FieldLemmas
import Cutplace.Proofs.LengthRange
import Cutplace.Proofs.Layout
import Cutplace.Proofs.RegexSem
/-
C02  Each field type accepts exactly the values its rule describes.

Proved here: Integer (an integer literal inside the valid range, value = what the text denotes, the
canonical text of every integer within CPython's 4300-digit conversion limit is read back as that
integer, beyond it it is refused; the range derived from a length declaration), Choice, Constant, Text, the separator handling of Decimal, DateTime (sound and complete
for written dates, layout translation), RegEx and Pattern (matcher = declarative semantics).
-/
namespace Cutplace.Props
open Cutplace Cutplace.Spec

/-- `int(str(n)) = n` for every integer whose decimal text stays within CPython's conversion limit
(`sys.get_int_max_str_digits()`, 4300 digits): the canonical text of an integer denotes that integer.
Beyond the limit `int()` raises `ValueError` and the cell is rejected (`C02_int_text_beyond_limit`). -/
theorem C02_int_text_roundtrip (n : Int) (hd : (digits n.natAbs).length ≤ maxStrDigits) : pyIntBase10 (intRepr n) = some n := by
  rw [pyIntBase10_intRepr, if_neg (by omega)]

/-- beyond CPython's limit the canonical text is not converted (the real `int()` raises `ValueError`,
which the Integer field turns into a rejection) -/
theorem C02_int_text_beyond_limit (n : Int) (hd : (digits n.natAbs).length > maxStrDigits) : pyIntBase10 (intRepr n) = none := by
  rw [pyIntBase10_intRepr, if_pos hd]

/-- Integer: a (non-empty, ASCII) cell is accepted iff it is an integer literal whose value lies in
the field's valid range, and then the native value is that integer. -/
theorem C02_integer (valid : Range) (cell : Str) (ha : isAscii cell = true) (v : Value) :
    (FieldKind.integer valid).validatedValue cell = .ok (some v) ↔
      ∃ n : Int, pyIntBase10 cell = some n ∧ valid.validate n = true ∧ v = .int n := by
  simp only [FieldKind.validatedValue, ha, Bool.not_true, Bool.false_eq_true, if_false]
  cases pyIntBase10 cell with
  | none => simp
  | some n =>
    by_cases hv : valid.validate n = true
    · simp [hv]; exact eq_comm
    · simp [hv]

/-- ... and since the valid range is a `Range`, "lies in the range" is C01's membership. -/
theorem C02_integer_rule (d : RangeDesc) (n : Int) (hdig : (digits n.natAbs).length ≤ maxStrDigits) :
    (FieldKind.integer (rangeOfItems (denote d))).validatedValue (intRepr n) = .ok (some (.int n)) ↔ Accepts d n := by
  simp [C02_integer _ _ (intRepr_isAscii n), C02_int_text_roundtrip n hdig, C01_validate_iff_items]
where
  C01_validate_iff_items (d : RangeDesc) (v : Int) : (rangeOfItems (denote d)).validate v = true ↔ Accepts d v :=
    validate_denote d v

/-- **Integer with only a length.** For every well-formed length declaration `L` (at least one item,
`lower ≤ upper`, items pairwise disjoint, no negative lower limit, upper limits at least 1; lengths up
to CPython's 4300-digit conversion limit) `create_range_from_length` succeeds, and the range it
builds — by writing a text of nines and zeros and parsing it again with `Range()` — accepts an
integer exactly when the length of its decimal text (`str(n)`, minus sign included) is one the
declaration allows. -/
theorem C02_int_length (L : RangeDesc) (hwf : WellFormed L) (hok : ∀ it ∈ L, LenItemOk it) (hb : LenBounded L) :
    ∃ r, createRangeFromLength (rangeOfItems (denote L)) = .ok r ∧
      ∀ n : Int, r.validate n = true ↔ Accepts L ((intRepr n).length : Int) := by
  by_cases hw : ∃ it ∈ L, IsWhole it
  · obtain ⟨it, hit, hwit⟩ := hw
    obtain rfl := whole_alone L hok hwf.2.2 it hit hwit
    refine ⟨emptyRange, createRangeFromLength_whole it (hok it hit) hb hwit, fun n => ?_⟩
    -- every length is allowed: at least one character, no upper limit
    have : it.Mem ((intRepr n).length : Int) :=
      (mem_iff_bounds _ _).2 ⟨fun l hl => Int.le_trans (hwit.2 l hl) (textLen_pos n), fun u hu => by rw [hwit.1] at hu; cases hu⟩
    simp [emptyRange, Range.validate, Accepts, this]
  · have hnw : ∀ it ∈ L, ¬ IsWhole it := fun it hit h => hw ⟨it, hit, h⟩
    exact ⟨_, createRangeFromLength_gen L hwf hok hb hnw, fun n => (validate_denote _ n).trans (genAll_accepts L hok hnw n)⟩

/-- non-vacuity: the declaration `2...3, 5` (negative numbers count their sign) -/
example :
    let L : RangeDesc := [.closed 2 3, .single 5]
    WellFormed L ∧ (∀ it ∈ L, LenItemOk it) ∧ LenBounded L ∧
      Accepts L ((intRepr (-42)).length : Int) ∧ ¬ Accepts L ((intRepr 1234).length : Int) := by
  unfold LenItemOk LenBounded
  decide +kernel

/-- Choice: accepted iff the cell is exactly one of the listed values (case-sensitively: list
membership of the character sequence), returned unchanged. -/
theorem C02_choice (choices : List Str) (cell : Str) (v : Value) :
    (FieldKind.choice choices).validatedValue cell = .ok (some v) ↔ cell ∈ choices ∧ v = .str cell := by
  simp only [FieldKind.validatedValue]
  by_cases h : cell ∈ choices
  · simp [h]; exact eq_comm
  · simp [h]

/-- Constant: accepted iff the cell equals the constant. -/
theorem C02_constant (c cell : Str) (v : Value) :
    (FieldKind.constant c).validatedValue cell = .ok (some v) ↔ cell = c ∧ v = .str cell := by
  simp only [FieldKind.validatedValue]
  by_cases h : cell = c
  · simp [h]; exact eq_comm
  · simp [h]

/-- Text: anything is accepted and returned unchanged. -/
theorem C02_text (cell : Str) : FieldKind.text.validatedValue cell = .ok (some (.str cell)) := rfl

/-- Decimal, separator handling: a text without separators is left alone. -/
theorem C02_decimal_plain (sep : Char) (thou : Option Char) (s : Str) (found : Bool)
    (h1 : sep ∉ s) (h2 : ∀ t, thou = some t → t ∉ s) :
    translateDecimal sep thou s found = some s := by
  have hf : s.filter (fun c => thou != some c) = s :=
    List.filter_eq_self.mpr fun c hc => by simpa using fun h => h2 c h hc
  cases found
  · simpa [hf, translateDecimal] using translateDecimal_append sep thou s [] h1
  · rw [translateDecimal_found, if_neg]
    simp only [List.any_eq_true, not_exists, not_and, Bool.or_eq_true, beq_iff_eq, not_or]
    exact fun c hc => ⟨fun h => h1 (h ▸ hc), fun h => h2 c h hc⟩

/-- Decimal: the decimal separator becomes a point, thousands separators before it are dropped:
`ip` (possibly with thousands separators) `sep` `fp` is translated to the plain number. -/
theorem C02_decimal_translate (sep : Char) (thou : Option Char) (ip fp : Str)
    (hip : sep ∉ ip) (hfp1 : sep ∉ fp) (hfp2 : ∀ t, thou = some t → t ∉ fp) :
    translateDecimal sep thou (ip ++ sep :: fp) false =
      some (ip.filter (fun c => thou != some c) ++ '.' :: fp) := by
  rw [translateDecimal_append _ _ _ _ hip]
  simp [translateDecimal, C02_decimal_plain sep thou fp true hfp1 hfp2]

/-- Decimal: a second decimal separator is refused. -/
theorem C02_decimal_two_separators (sep : Char) (thou : Option Char) (s : Str) (h : sep ∈ s) :
    translateDecimal sep thou s true = none := by
  rw [translateDecimal_found, if_pos]
  exact List.any_eq_true.mpr ⟨sep, h, by simp⟩

/-- Decimal: a thousands separator after the decimal separator is refused. -/
theorem C02_decimal_thousands_after_separator (sep t : Char) (s : Str) (h : t ∈ s) (hne : t ≠ sep) :
    translateDecimal sep (some t) s true = none := by
  rw [translateDecimal_found, if_pos]
  exact List.any_eq_true.mpr ⟨t, h, by simp⟩

/-- non-vacuity -/
example : translateDecimal ',' (some '.') "1.234.567,89".toList false = some "1234567.89".toList := by decide +kernel
example : pyIntBase10 " -42 ".toList = some (-42) := by decide +kernel

/-- **DateTime accepts only real calendar dates and times.**  Whatever `time.strptime` (as modelled: CPython's
directive alternatives in their order of preference, with back-tracking) accepts for any format over
`%d %m %Y %y %H %M %S`, literal characters and white space, and any cell text, is a real time of day (leap seconds 60
and 61 as CPython allows them) and a real day of the returned month and year under the Gregorian leap-year rule - with
the one exception CPython makes: a format without year accepts 29 February and reports the year 1900. -/
theorem C02_datetime_sound (fmt : List FmtTok) (value : Str) (y mo d h mi sec : Nat)
    (hs : strptime fmt value = some (y, mo, d, h, mi, sec)) :
    1 ≤ mo ∧ mo ≤ 12 ∧ 1 ≤ d ∧ h ≤ 23 ∧ mi ≤ 59 ∧ sec ≤ 61 ∧
      (d ≤ daysInMonth y mo ∨ (hasYear fmt = false ∧ y = 1900 ∧ mo = 2 ∧ d = 29)) := by
  obtain ⟨f, hm, -, hday, hr⟩ := (strptime_eq_some fmt value _).mp hs
  obtain ⟨rfl, rfl, rfl, rfl, rfl, rfl⟩ := hr
  have hok := matchToks_ok hm Fields.ok_empty
  refine ⟨hok.month_getD.1, hok.month_getD.2, hok.day_getD.1, hok.hour, hok.minute, hok.second, ?_⟩
  cases hfy : f.year with
  | some y => rw [hfy] at hday; exact .inl hday
  | none =>
    -- no year was matched, so the format names none; the day was checked in 1904 if it is a 29 February, in 1900 otherwise
    have hny : hasYear fmt = false := Bool.eq_false_iff.mpr fun hh => by simpa [hfy] using matchToks_year hm hh
    rw [hfy] at hday
    split at hday
    · rename_i h29
      simp only [Bool.and_eq_true, beq_iff_eq] at h29
      exact .inr ⟨hny, rfl, h29.1, h29.2⟩
    · exact .inl hday

/-- non-vacuity: 29.02.2024 is accepted under DD.MM.YYYY, 29.02.2023 and 31.04.2024 are not -/
example :
    let fmt : List FmtTok := [.day, .lit '.', .month, .lit '.', .year4]
    strptime fmt "29.02.2024".toList = some (2024, 2, 29, 0, 0, 0) ∧ strptime fmt "29.02.2023".toList = none ∧
      strptime fmt "31.04.2024".toList = none := by decide +kernel

/-- the match consumes exactly what the layout writes, whatever follows (so a longer cell is "unconverted data") -/
theorem C02_datetime_match_exact (fmt : List FmtTok) (c : Civil) (hr : c.InRange) (hn : NoSpace fmt) (tail : Str) (f : Fields) :
    matchToks fmt (renderFmt fmt c ++ tail) f = some (fieldsOf fmt c f, tail) := by
  induction fmt generalizing f with
  | nil => rfl
  | cons t ts ih =>
    rw [renderFmt, List.append_assoc]
    exact matchToks_cons_render t c hr (hn t List.mem_cons_self) (ih (fun x hx => hn x (List.mem_cons_of_mem _ hx)) _)

/-- **`strptime` accepts every real calendar date written in the layout of its format.**  For every format over the
directives, any literal characters (digits included) and no white space that names day, month and the four-digit year
and does not name the two-digit year as well, and every real date (year 1..9999) and time of day: the text that writes day, month, hour, minute and second with two
digits and the year with four is accepted, whatever CPython's alternation order and back-tracking try first, and the
returned tuple is the date as written (time fields the format does not name are 0). -/
theorem C02_datetime_complete (fmt : List FmtTok) (c : Civil) (hr : c.InRange) (hn : NoSpace fmt)
    (hd : .day ∈ fmt) (hm : .month ∈ fmt) (hy : .year4 ∈ fmt) (hy2 : .year2 ∉ fmt)
    (hy1 : 1 ≤ c.y) (hdim : c.d ≤ daysInMonth c.y c.mo) :
    strptime fmt (renderFmt fmt c) = some (c.y, c.mo, c.d, (if .hour ∈ fmt then c.h else 0),
      (if .minute ∈ fmt then c.mi else 0), (if .second ∈ fmt then c.s else 0)) := by
  have hmt := C02_datetime_match_exact fmt c hr hn [] {}
  rw [List.append_nil, fieldsOf_eq fmt c {} hy2] at hmt
  refine (strptime_eq_some _ _ _).mpr ⟨_, hmt, ?_⟩
  simp only [hd, hm, hy, if_true, Option.getD_some]
  exact ⟨by omega, hdim, trivial⟩

/-- non-vacuity: 2024-02-29 23:59 under `YYYY-MM-DD hh:mm` written without blank (`T` as separator) -/
example :
    let fmt : List FmtTok := [.year4, .lit '-', .month, .lit '-', .day, .lit 'T', .hour, .lit ':', .minute]
    let c : Civil := ⟨2024, 2, 29, 23, 59, 0⟩
    c.InRange ∧ NoSpace fmt ∧ c.d ≤ daysInMonth c.y c.mo ∧ renderFmt fmt c = "2024-02-29T23:59".toList := by
  refine ⟨⟨by decide, by decide, by decide, by decide, by decide, by decide⟩, by unfold NoSpace; decide, by decide, by decide +kernel⟩

/-- **The layout of the rule is translated into the directives it names.**  For every layout built from the placeholders
`DD MM YYYY YY hh mm ss` and literal characters (anything but the letters of the placeholders and white space, `%` included), in
any order and with placeholders side by side - only `YY` must not be directly followed by another year placeholder, because
`YYYY` is the four-digit year - the replacement pass of `DateTimeFieldFormat.__init__` and strptime's reading of the resulting
format give exactly the directives of the layout, in order.  (Before f42b7f8 the replacements were made one after the other
and `MMmm` became `%%Mm`: found by the generated layouts of this check, repaired, theorem restated without that exclusion.) -/
theorem C02_layout_translation (l : List LTok) (h : SafeLayout l) :
    parseFormat (translateLayout (renderLayout l)) = some (some (l.map LTok.fmt)) := by
  rw [translateLayout_render l h, parseFormat_render8 l h]

/-- **From the layout text of the rule to the date `strptime` accepts**: for a safe layout (as in `C02_layout_translation`:
no literal that is white space or a placeholder letter) naming day, month and four-digit year and not the two-digit year,
the translated text is read as a format under which `strptime` accepts every real date (year 1..9999, and time of day)
written in it and returns it unchanged.  The statement is about the translation and `strptime`, not about the declaration
of the field, which also refuses a layout that repeats a placeholder. -/
theorem C02_datetime_layout (l : List LTok) (h : SafeLayout l) (c : Civil) (hr : c.InRange)
    (hd : .day ∈ l) (hm : .month ∈ l) (hy : .year4 ∈ l) (hy2 : .year2 ∉ l) (hy1 : 1 ≤ c.y) (hdim : c.d ≤ daysInMonth c.y c.mo) :
    ∃ fmt, parseFormat (translateLayout (renderLayout l)) = some (some fmt) ∧
      strptime fmt (renderFmt fmt c) = some (c.y, c.mo, c.d, (if .hour ∈ fmt then c.h else 0),
        (if .minute ∈ fmt then c.mi else 0), (if .second ∈ fmt then c.s else 0)) :=
  ⟨l.map LTok.fmt, C02_layout_translation l h,
    C02_datetime_complete _ c hr (noSpace_layout l) (List.mem_map_of_mem hd) (List.mem_map_of_mem hm)
      (List.mem_map_of_mem hy) (not_mem_layout_year2 l hy2) hy1 hdim⟩

/-- non-vacuity: `YYYYMMDDhhmm` (placeholders side by side) is a safe layout, written as that text -/
example :
    let l : List LTok := [.year4, .month, .day, .hour, .minute]
    SafeLayout l ∧ renderLayout l = "YYYYMMDDhhmm".toList := by
  refine ⟨?_, by decide +kernel⟩
  simp [SafeLayout]

/-- **RegEx (and Pattern): the matcher decides the declarative semantics of the expression.**  For every expression of the
modelled subset (characters ignoring case, `.`, classes, sequence, alternation, `*`, `{m,n}`, `^ $ \Z`) and every value,
`regex.match(value)` - as modelled: sets of end positions, closure loops with fuel `len + 1` - succeeds iff the expression
matches the text between position 0 and some position `j` in the usual inductive sense (`Rx.Matches`: star = reflexive
transitive closure, `{m,n}` = m to max(m, n) repetitions).  The fuel never runs out before the closure is complete: every round adds a
new position and there are only `len + 1` positions (`loop_spec`: every round takes one away from a list of the positions
not yet reached). -/
theorem C02_regex_semantics (rx : Rx) (v : Str) : rx.matchPrefix v = true ↔ ∃ j, rx.Matches v.toArray 0 j :=
  matchPrefix_iff rx v

/-- the same for any set of start positions inside the text: `ends` is exactly the image under "matches" (for start
positions beyond the text as well: `mem_ends`, of which `ends_spec` is the case stated here) -/
theorem C02_regex_ends (rx : Rx) (s : Array Char) (ps : List Nat) (hps : ∀ p ∈ ps, p ≤ s.size) (j : Nat) :
    j ∈ rx.ends s ps ↔ ∃ i ∈ ps, rx.Matches s i j :=
  ends_spec s rx ps hps j

/-- **Pattern: a value is accepted iff the glob matches it entirely.**  `GlobSem` is the reading of the glob itself: `*` any
text (also none), `?` any one character, `[...]` one character of the class (the class as the model's own `globClass` reads
it and `clsMatch` tests it), `[` without closing bracket and every other character itself, ignoring case; nothing of the value
may be left over.  For every rule inside the modelled fragment of
`fnmatch.translate` the compiled expression accepts exactly these values. -/
theorem C02_pattern (rule : Str) (rx : Rx) (v : Str) (h : globToRx (rule.length + 1) rule = some rx) :
    rx.matchPrefix v = true ↔ GlobSem (rule.length + 1) rule v :=
  pattern_accepts (rule.length + 1) rule rx v h

/-- the field: a Pattern field declared with a rule accepts (ASCII) `v` iff the glob denotes it -/
theorem C02_pattern_field (rule : Str) (rx : Rx) (v : Str) (h : globToRx (rule.length + 1) rule = some rx) (ha : isAscii v = true) :
    (FieldKind.pattern rx).validatedValue v = .ok (some (.str v)) ↔ GlobSem (rule.length + 1) rule v := by
  rw [← C02_pattern rule rx v h]
  simp only [FieldKind.validatedValue, ha, Bool.not_true, Bool.false_eq_true, if_false]
  cases rx.matchPrefix v <;> simp

/-- non-vacuity: `a*` denotes `Ab` (case is ignored) and not `ba` -/
example : GlobSem 3 ['a', '*'] ['A', 'b'] ∧ ¬ GlobSem 3 ['a', '*'] ['b', 'a'] := by
  constructor
  · exact ⟨'A', ['b'], rfl, by decide, 1, by decide, rfl⟩
  · rintro ⟨x, v', ⟨⟩, hf, _⟩
    revert hf
    decide

end Cutplace.Props
