import Cutplace.Proofs.CsvRoundTrip
/-
C12  Delimited data round-trips through write and read for every accepted format.

Full statement, proved (`C12_roundtrip`):
  GoodCfg cfg → (∀ r ∈ t, r ≠ []) → ∃ s, renderTable cfg t = some s ∧ parse cfg s = some t
for tables of any size over all characters, for both dialect families cutplace can configure (quote
doubling when the escape character equals the quote character, escape-character otherwise), with and
without quote-all.  The hypothesis on the rows is not needed: `Csv.parse_renderTable` proves the same for every table
(a row without cells is written as an empty line, and the reader returns an empty line as a row without cells).
`C12_goodcfg_of_accepted` shows that every delimited format that
`DataFormat.validate` accepts gives a `GoodCfg`, provided its quote character is one of the valid
quote characters, its escape character is `"` or `\` and initial-space skipping is off;
`C12_accepted_roundtrip` chains the two.  The model of the csv reader and writer
(`Model/Csv.lean`) is tied to CPython's `_csv` by the exhaustive correspondence in the harness.
-/
namespace Cutplace.Props
open Cutplace Cutplace.Csv

/-- Every delimited format that passes `DataFormat.validate` (with quote and escape characters from
their documented sets, initial-space skipping off) yields a dialect fit for the round trip. -/
theorem C12_goodcfg_of_accepted (df : DataFormat) (hf : df.format = .delimited) (hv : df.validate = true)
    (hq : validQuoteCharacters.contains df.quote = true) (he : df.escape = '"' ∨ df.escape = '\\')
    (hs : df.skipInitialSpace = false) : GoodCfg (ofDataFormat df) := by
  unfold DataFormat.validate at hv
  simp only [hf, Bool.and_eq_true, bne_iff_ne, Bool.not_eq_true', Bool.or_eq_false_iff, beq_eq_false_iff_ne] at hv
  obtain ⟨⟨⟨⟨⟨⟨_, _⟩, h3⟩, _⟩, h5⟩, h6, h7⟩, _⟩ := hv
  have hqn : df.quote ≠ '\n' ∧ df.quote ≠ '\r' := by
    constructor <;> (intro h; rw [h] at hq; exact absurd hq (by decide))
  unfold ofDataFormat
  split
  · exact ⟨h6, h7, h5, hqn.1, hqn.2, hs, .inl ⟨rfl, rfl⟩⟩
  · rename_i heq
    refine ⟨h6, h7, h5, hqn.1, hqn.2, hs, .inr ⟨rfl, df.escape, rfl, h3, by simpa using heq, ?_, ?_⟩⟩ <;>
      rcases he with h | h <;> rw [h] <;> decide

/-- **Round trip.** For every good dialect and every table whose rows have at least one cell, cells
of any content (delimiters, quotes, escape characters, CR, LF, CRLF, leading/trailing blanks, empty):
the writer accepts the table and the reader returns exactly that table from the written text. -/
theorem C12_roundtrip (cfg : Cfg) (hg : GoodCfg cfg) (t : List (List (List Char))) (ht : ∀ r ∈ t, r ≠ []) :
    ∃ text, renderTable cfg t = some text ∧ parse cfg text = some t :=
  roundtrip cfg hg t ht

/-- The same for every delimited data format `DataFormat.validate` accepts, under the same
assumptions on quote character, escape character and initial-space skipping. -/
theorem C12_accepted_roundtrip (df : DataFormat) (hf : df.format = .delimited) (hv : df.validate = true)
    (hq : validQuoteCharacters.contains df.quote = true) (he : df.escape = '"' ∨ df.escape = '\\')
    (hs : df.skipInitialSpace = false) (t : List (List (List Char))) (ht : ∀ r ∈ t, r ≠ []) :
    ∃ text, renderTable (ofDataFormat df) t = some text ∧ parse (ofDataFormat df) text = some t :=
  roundtrip _ (C12_goodcfg_of_accepted df hf hv hq he hs) t ht

/-- Per-cell core of the argument (doublequote dialect): a quoted cell — opening quote, the cell with every quote
doubled, closing quote — is read as exactly that cell, whatever it contains (delimiters, quotes, CR,
LF, CRLF), when the line splitter starts in the middle of a line (state `mid`) and the parser at the
start of a field; the cells and records collected before stay as they were, no record is added. -/
theorem C12_quoted_cell (cfg : Cfg) (hg : GoodCfg cfg) (hdq : cfg.dq = true) (hesc : cfg.esc = none)
    (f : List Char) (fields : List (List Char)) (out : List (List (List Char))) :
    ∃ l', feedAll cfg { l := .mid, p := { st := .startField, field := [], fields := fields }, out := out }
        (cfg.quote :: bodyDq cfg.quote f ++ [cfg.quote])
      = some { l := l', p := { st := .quoteInQuoted, field := f.reverse, fields := fields }, out := out } :=
  ⟨.mid, by rw [bodyDq_eq cfg hdq hesc, quoted_field_read cfg hg f .mid (by simp) _ (.inl rfl), if_pos hdq]⟩

/-- non-vacuity: the default format, a table whose cells contain the delimiter, quotes and line breaks -/
example :
    let cfg : Cfg := { delim := ',', quote := '"', esc := none, dq := true, quoteAll := false }
    let t := [["a,b".toList, "say \"hi\"".toList], ["line1\r\nline2".toList, []], [[]]]
    (renderTable cfg t).bind (parse cfg) = some t := by decide +kernel

/-- non-vacuity: the escape-character dialect is a `GoodCfg` too -/
example : GoodCfg { delim := ';', quote := '\'', esc := some '\\', dq := false, quoteAll := true } :=
  ⟨by decide, by decide, by decide, by decide, by decide, rfl,
   Or.inr ⟨rfl, '\\', rfl, by decide, by decide, by decide, by decide⟩⟩

/-- the hypotheses are needed: with the item delimiter equal to the escape character the writer's
output is read back differently (this is what `DataFormat.validate` refuses since the C12 repair) -/
example :
    let cfg : Cfg := { delim := '\\', quote := '"', esc := some '\\', dq := false, quoteAll := false }
    (renderTable cfg [[['a'], ['b']]]).bind (parse cfg) ≠ some [[['a'], ['b']]] := by decide +kernel

end Cutplace.Props
