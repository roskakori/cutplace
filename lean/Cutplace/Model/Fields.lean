import Cutplace.Model.Range
import Cutplace.Model.Decimal
import Cutplace.Model.DateTime
import Cutplace.Model.Regex
/-
Model of `cutplace/fields.py`: the guard pipeline of `AbstractFieldFormat.validated` and the
declaration logic + `validated_value` of the built-in field types.
-/
namespace Cutplace

inductive Format | delimited | fixed | excel | ods
  deriving Repr, DecidableEq, Inhabited

/-- native value returned by `validated` -/
inductive Value
  | none
  | str (s : Str)
  | int (i : Int)
  | other (tag : Str)      -- decimals / time tuples are carried as canonical text
  deriving Repr, DecidableEq, Inhabited

/-- the type specific part of a declared field -/
inductive FieldKind
  | text
  | integer (valid : Range)
  | choice (choices : List Str)
  | constant (c : Str)
  /-- harness-defined plugin type: rejects every value containing `bad` -/
  | scripted (bad : Char)
  | decimal (decimalSep : Char) (thousandsSep : Option Char) (valid : DecimalRange)
  | datetime (fmt : List FmtTok) (hasTime : Bool) (excel : Bool)
  | pattern (rx : Rx)
  | regex (rx : Rx)
  deriving Repr, Inhabited

structure Field where
  allowEmpty : Bool
  length : Range
  fixed : Bool
  /-- `data_format.allowed_characters` -/
  allowed : Option Range
  kind : FieldKind
  deriving Repr, Inhabited

/-- `DateTimeFieldFormat.validated_value`: a date-only rule under the Excel format drops the
" 00:00:00" Excel appends to dates -/
def stripExcelTime (hasTime excel : Bool) (v : Str) : Str :=
  if !hasTime && excel && decide (v.length ≥ 9) && (v.drop (v.length - 9) == " 00:00:00".toList)
  then v.take (v.length - 9) else v

/-- `validated_value` of the built-in types: `none` = `FieldValueError`.  `unsupported` when the
cell leaves the modelled fragment of `int()`. -/
def FieldKind.validatedValue (k : FieldKind) (v : Str) : Out (Option Value) :=
  match k with
  | .text => .ok (some (.str v))
  | .integer valid =>
    if !isAscii v then .error .unsupported
    else match pyIntBase10 v with
      | none => .ok none
      | some i => .ok (if valid.validate i then some (.int i) else none)
  | .choice cs => .ok (if cs.contains v then some (.str v) else none)
  | .constant c => .ok (if v == c then some (.str v) else none)
  | .scripted bad => .ok (if v.contains bad then none else some (.str v))
  | .decimal ds ts valid =>
    match translateDecimal ds ts v false with
    | none => .ok none
    | some t =>
      match pyDecimal t with
      | .unsupported => .error .unsupported
      | .invalid => .ok none
      | .ok (.inf _) => .ok none        -- not finite: refused
      | .ok .nan => .ok none
      | .ok d =>
        match valid.validate d with
        | none => .error .invalidOperation          -- NaN compared with a limit
        | some true => .ok (some (.other d.tupleText))
        | some false => .ok none
  | .datetime fmt hasTime excel =>
    if !isAscii v then .error .unsupported
    else
      let v' := stripExcelTime hasTime excel v
      if hasDuplicateDirective fmt then .error .reError
      else match strptime fmt v' with
        | none => .ok none
        | some (y, mo, d, h, mi, sec) =>
          .ok (some (.other (natRepr y ++ "-".toList ++ natRepr mo ++ "-".toList ++ natRepr d ++ " ".toList ++
            natRepr h ++ ":".toList ++ natRepr mi ++ ":".toList ++ natRepr sec)))
  | .pattern rx => if !isAscii v then .error .unsupported else .ok (if rx.matchPrefix v then some (.str v) else none)
  | .regex rx => if !isAscii v then .error .unsupported else .ok (if rx.matchPrefix v then some (.str v) else none)

def FieldKind.emptyValue : FieldKind → Value
  | .integer _ => .none
  | .decimal _ _ _ => .none
  | .datetime _ _ _ => .none
  | _ => .str []

/-- `validate_characters`: index of the first character outside the allowed range -/
def firstDisallowed (allowed : Option Range) (v : Str) : Option Nat :=
  match allowed with
  | none => none
  | some r => v.findIdx? (fun c => !r.validate c.toNat)

/-- `validate_length` (non-raising part): does the length guard pass? -/
def Field.lengthOk (f : Field) (v : Str) : Bool :=
  if f.allowEmpty && v.isEmpty then true
  else if f.fixed then
    match f.length.lowerLimit with
    | some w => decide ((v.length : Int) ≤ w)
    | none => true     -- unreachable for CIDs read from a fixed format (length is mandatory); see `declare`
  else f.length.validate v.length

/-- outcome of `validated` with the value hook passed in (so the guard theorems hold for every
field type and rule).  `hook` returns `none` to reject. -/
def Field.validatedWith (f : Field) (hook : Str → Out (Option Value)) (emptyValue : Value) (v : Str) :
    Out (Option Value) :=
  match firstDisallowed f.allowed v with
  | some _ => .ok none
  | none =>
    let s := if f.fixed then strip v else v
    if !f.allowEmpty && s.isEmpty then .ok none
    else if !f.lengthOk v then .ok none
    else if s.isEmpty then .ok (some emptyValue) else hook s

def Field.validated (f : Field) (v : Str) : Out (Option Value) :=
  f.validatedWith f.kind.validatedValue f.kind.emptyValue v

def Field.accepts (f : Field) (v : Str) : Out Bool := (f.validated v).map Option.isSome

/-! ### declaration (`<Type>FieldFormat.__init__`) -/

/-- `_tools.token_text` -/
def tokenText (t : Tok) : Str :=
  if t.kind == .string then (t.text.drop 1).dropLast else t.text

/-- the choice-extraction loop of `ChoiceFieldFormat.__init__` -/
def choiceLoop : Nat → List Tok → List Str → Out (List Str)
  | 0, _, _ => .error .unsupported
  | _, [], _ => .error .stopIteration
  | fuel + 1, t :: ts, acc =>
    if t.isEof then .ok acc
    else if t.isComma then .error .iface
    else
      let c := tokenText t
      if c.isEmpty then .error .iface
      else match ts with
        | [] => .error .stopIteration
        | t2 :: ts2 =>
          if t2.isEof then .ok (acc ++ [c])
          else if !t2.isComma then .error .iface
          else match ts2 with
            | [] => .error .stopIteration
            | t3 :: _ => if t3.isEof then .error .iface else choiceLoop fuel ts2 (acc ++ [c])

def intLen (i : Int) : Nat := (intRepr i).length

/-- `IntegerFieldFormat.__init__` after `super().__init__`: returns the valid range -/
def declareInteger (fixed : Bool) (lengthText rule : Str) (length : Range) : Out Range := do
  let hasLength := !(strip lengthText).isEmpty
  let hasRule := !(strip rule).isEmpty
  -- length part
  let lenInfo : Option (Range × Range) ←
    if hasLength then do
      let len ←
        if fixed then
          if length.lowerLimit != length.upperLimit then .error .iface
          else match length.upperLimit with
            | none => .error .iface
            | some u => Range.parse ("1...".toList ++ intRepr u)
        else pure length
      -- a RangeValueError from the length is reported as interface error
      let lr ← match createRangeFromLength len with
        | .error (.data .range) => .error .iface
        | other => other
      pure (some (len, lr))
    else pure none
  let ruleRange : Option Range ← if hasRule then (Range.parse rule).map some else pure none
  match lenInfo, ruleRange with
  | some (len, _), some rr =>
    let limits : List Int := (rr.items.getD []).flatMap (fun it => it.lo.toList ++ it.hi.toList)
    if limits.all (fun l => len.validate (intLen l)) then pure rr else .error .iface
  | some (_, lr), none => pure lr
  | none, some rr => pure rr
  | none, none => Range.parse "-2147483648...2147483647".toList

inductive TypeName | text | integer | choice | constant | scripted (bad : Char) | decimal | datetime | pattern | regex
  deriving Repr, DecidableEq, Inhabited

/-- the data-format attributes a field declaration reads -/
structure FormatInfo where
  format : Format
  allowed : Option Range := none
  decimalSep : Char := '.'
  thousandsSep : Option Char := none
  deriving Repr, Inhabited

/-- `<Type>FieldFormat(name, allowEmpty, lengthText, rule, data_format)` -/
def declareFieldIn (ty : TypeName) (info : FormatInfo) (allowEmpty : Bool)
    (lengthText rule : Str) : Out Field := do
  let fmt := info.format
  let allowed := info.allowed
  -- Decimal passes "" to the base class and installs a DecimalRange as length afterwards
  let length ← if ty == .decimal then Range.parse [] else Range.parse lengthText
  let fixed := fmt == .fixed
  let mk (k : FieldKind) : Field := ⟨allowEmpty, length, fixed, allowed, k⟩
  match ty with
  | .text => pure (mk .text)
  | .scripted bad => pure (mk (.scripted bad))
  | .integer => do
    let valid ← declareInteger fixed lengthText rule length
    pure (mk (.integer valid))
  | .choice => do
    let toks ← liftLex (tokenizeWithoutSpace rule)
    let cs ← choiceLoop (toks.length + 1) toks []
    if !allowEmpty && cs.isEmpty then .error .iface else pure (mk (.choice cs))
  | .constant => do
    let toks ← liftLex (tokenizeWithoutSpace rule)
    let c ← match toks with
      | [] => .error .stopIteration
      | t :: ts =>
        if t.isEof then pure []
        else match ts with
          | [] => .error .stopIteration
          | t2 :: _ => if t2.isEof then pure (tokenText t) else .error .iface
    let hasEmptyRule := rule.isEmpty
    if allowEmpty && !hasEmptyRule then .error .iface
    else if !allowEmpty && hasEmptyRule then .error .iface
    else if !length.validate c.length then .error .iface
    else pure (mk (.constant c))
  | .decimal => do
    -- Excel / ODS formats have no separator properties: the defaults apply
    let (ds, ts) : Char × Option Char := if fmt == .excel || fmt == .ods then ('.', none) else (info.decimalSep, info.thousandsSep)
    let valid ← DecimalRange.parse rule (some defaultDecimalRangeText)
    -- the length counts characters: a range of integers (since 6df6362; before, a `DecimalRange`)
    let len ← Range.parse lengthText
    pure ⟨allowEmpty, len, fixed, allowed, .decimal ds ts valid⟩
  | .datetime => do
    if !isAscii rule then .error .unsupported
    let sf := translateLayout rule
    match parseFormat sf with
    | none => .error .unsupported
    | some none => pure (mk (.datetime [.lit '%'] false (fmt == .excel)))   -- stray `%`: every value fails (`ValueError`)
    | some (some toks) =>
      -- `any(directive in self.strptime_format ...)`: a substring test on the translated text
      let hasSub (pat : Str) : Bool := (List.range (sf.length + 1)).any (fun i => startsWith (sf.drop i) pat)
      let hasTime := hasSub "%H".toList || hasSub "%M".toList || hasSub "%S".toList
      -- the constructor probes `time.strptime("", format)`: a directive used twice is `re.error` -> InterfaceError
      if hasDuplicateDirective toks then .error .iface
      else pure (mk (.datetime toks hasTime (fmt == .excel)))
  | .pattern =>
    match globToRx (rule.length + 1) rule with
    | some rx => if isAscii rule then pure (mk (.pattern rx)) else .error .unsupported
    | none => .error .unsupported
  | .regex =>
    match parseRegex rule with
    | some rx => pure (mk (.regex rx))
    | none => .error .unsupported

def declareField (ty : TypeName) (fmt : Format) (allowed : Option Range) (allowEmpty : Bool)
    (lengthText rule : Str) : Out Field :=
  declareFieldIn ty { format := fmt, allowed := allowed } allowEmpty lengthText rule

end Cutplace

namespace Cutplace

/-- the guard pipeline as the engine's `Column.pre`: decided without the hook (`inl`) or hook called
with the (possibly blank-stripped) cell (`inr`) -/
def Field.pre (f : Field) (v : Str) : Sum Bool Str :=
  match firstDisallowed f.allowed v with
  | some _ => .inl false
  | none =>
    let s := if f.fixed then strip v else v
    if !f.allowEmpty && s.isEmpty then .inl false
    else if !f.lengthOk v then .inl false
    else if s.isEmpty then .inl true else .inr s

/-- `validated` factors through `pre` for every hook -/
theorem Field.validatedWith_eq_pre (f : Field) (hook : Str → Out (Option Value)) (ev : Value) (v : Str) :
    f.validatedWith hook ev v =
      (match f.pre v with
       | .inl true => .ok (some ev)
       | .inl false => .ok none
       | .inr s => hook s) := by
  unfold Field.validatedWith Field.pre
  cases firstDisallowed f.allowed v with
  | some _ => rfl
  | none =>
    dsimp only
    cases f.allowEmpty <;> cases f.lengthOk v <;> cases (if f.fixed = true then strip v else v).isEmpty <;> rfl

end Cutplace
